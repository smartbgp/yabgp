/- Every module of the library once, grouped as the directories are (Base, Model, Spec, Gen, Driver, Lemmas, Props) and
   alphabetically within a group.  The `Driver/*Main.lean` files are stand-alone `lean --run` scripts, each with a
   `main` of its own, and are not part of the library. -/import Yabgp.Base.Bytes
import Yabgp.Model.Attr
import Yabgp.Model.Construct.EvpnGuards
import Yabgp.Model.Construct.ExtCommGuard
import Yabgp.Model.Construct.Flow
import Yabgp.Model.Construct.Guards
import Yabgp.Model.Construct.SrtePmsi
import Yabgp.Model.Construct.Tunnel
import Yabgp.Model.Consts
import Yabgp.Model.ExtComm
import Yabgp.Model.Mp.Common
import Yabgp.Model.Mp.EvfWrap
import Yabgp.Model.Mp.Evpn
import Yabgp.Model.Mp.Flowspec
import Yabgp.Model.Mp.Ipv6Unicast
import Yabgp.Model.Mp.LabeledUnicast
import Yabgp.Model.Mp.MpReach
import Yabgp.Model.Mp.MpUnreach
import Yabgp.Model.Mp.MplsVpn
import Yabgp.Model.MsgLog
import Yabgp.Model.MsgLogView
import Yabgp.Model.Open
import Yabgp.Model.Pmsi
import Yabgp.Model.Rest
import Yabgp.Model.Rib
import Yabgp.Model.Session
import Yabgp.Model.Text
import Yabgp.Model.Tlv
import Yabgp.Model.Update
import Yabgp.Spec.LogSpec
import Yabgp.Spec.RfcEncode
import Yabgp.Spec.RfcExtComm
import Yabgp.Spec.RfcFrame
import Yabgp.Spec.RfcOpen
import Yabgp.Spec.RibSpec
import Yabgp.Spec.Walker
import Yabgp.Gen.AttrFlags
import Yabgp.Gen.Constants
import Yabgp.Gen.Loops
import Yabgp.Gen.Open
import Yabgp.Gen.Routes
import Yabgp.Driver.C08Ops
import Yabgp.Driver.C08XcOps
import Yabgp.Driver.EvfOps
import Yabgp.Driver.Json
import Yabgp.Driver.MpOps
import Yabgp.Driver.MsgLogOps
import Yabgp.Driver.Ops
import Yabgp.Driver.RestOps
import Yabgp.Driver.RibOps
import Yabgp.Driver.Spec
import Yabgp.Driver.TlvOps
import Yabgp.Driver.WalkOps
import Yabgp.Driver.XcOps
import Yabgp.Lemmas.Agree
import Yabgp.Lemmas.AttrRt
import Yabgp.Lemmas.Basic
import Yabgp.Lemmas.CleanReact
import Yabgp.Lemmas.Compose
import Yabgp.Lemmas.Core
import Yabgp.Lemmas.Dispatch
import Yabgp.Lemmas.EvfBytes
import Yabgp.Lemmas.EvfRt
import Yabgp.Lemmas.EvpnRt
import Yabgp.Lemmas.Ext
import Yabgp.Lemmas.ExtCommRt
import Yabgp.Lemmas.FlowspecRt
import Yabgp.Lemmas.Framing
import Yabgp.Lemmas.Heal
import Yabgp.Lemmas.Keeps
import Yabgp.Lemmas.ListCodec
import Yabgp.Lemmas.LiveCL
import Yabgp.Lemmas.LiveEvo
import Yabgp.Lemmas.LiveOpen
import Yabgp.Lemmas.LiveReach
import Yabgp.Lemmas.LiveWait
import Yabgp.Lemmas.MpRt
import Yabgp.Lemmas.MsgLogLemmas
import Yabgp.Lemmas.NoEscape
import Yabgp.Lemmas.Norm
import Yabgp.Lemmas.OneConn
import Yabgp.Lemmas.OneFrame
import Yabgp.Lemmas.OpenErr
import Yabgp.Lemmas.OpenRt
import Yabgp.Lemmas.OutsExt
import Yabgp.Lemmas.Pass
import Yabgp.Lemmas.PrefixRt
import Yabgp.Lemmas.RefRt
import Yabgp.Lemmas.RestInv
import Yabgp.Lemmas.RestLemmas
import Yabgp.Lemmas.RibLemmas
import Yabgp.Lemmas.Run
import Yabgp.Lemmas.SentBal
import Yabgp.Lemmas.SessBasic
import Yabgp.Lemmas.Skel
import Yabgp.Lemmas.StLemmas
import Yabgp.Lemmas.Stopped
import Yabgp.Lemmas.TextRt
import Yabgp.Lemmas.TimerMoves
import Yabgp.Lemmas.TlvLemmas
import Yabgp.Lemmas.TlvOrder
import Yabgp.Lemmas.TmLemmas
import Yabgp.Lemmas.UpdateRt
import Yabgp.Lemmas.WalkerEvf
import Yabgp.Lemmas.WalkerFlow
import Yabgp.Lemmas.WalkerLemmas
import Yabgp.Lemmas.WalkerTunnel
import Yabgp.Props.C01
import Yabgp.Props.C01All
import Yabgp.Props.C01b
import Yabgp.Props.C01c
import Yabgp.Props.C02
import Yabgp.Props.C02All
import Yabgp.Props.C02b
import Yabgp.Props.C03
import Yabgp.Props.C03All
import Yabgp.Props.C03b
import Yabgp.Props.C03c
import Yabgp.Props.C03d
import Yabgp.Props.C04
import Yabgp.Props.C05
import Yabgp.Props.C06
import Yabgp.Props.C07
import Yabgp.Props.C07a
import Yabgp.Props.C07b
import Yabgp.Props.C08
import Yabgp.Props.C08All
import Yabgp.Props.C08Bridge
import Yabgp.Props.C08b
import Yabgp.Props.C08c
import Yabgp.Props.C08d
import Yabgp.Props.C09
import Yabgp.Props.C10
import Yabgp.Props.C10All
import Yabgp.Props.C10b
import Yabgp.Props.C11
import Yabgp.Props.C11b
import Yabgp.Props.C11p
import Yabgp.Props.C11q
import Yabgp.Props.C12
import Yabgp.Props.C13
import Yabgp.Props.C14
import Yabgp.Props.C15
import Yabgp.Props.C15b
import Yabgp.Props.C16
import Yabgp.Props.C17
import Yabgp.Props.C18
import Yabgp.Props.C18All
import Yabgp.Props.C18b
import Yabgp.Props.C18c
import Yabgp.Props.C19
import Yabgp.Props.C20
import Yabgp.Props.GenAgree
