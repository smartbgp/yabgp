/-
  C02 — the session self-heals: never stuck, nothing in the past blocks re-establishment.

  Safety half (proved for EVERY event sequence, every configuration, every peer behaviour): unless the operator stopped
  the peer, the agent is in one of the situations from which it moves on by itself or with the next event the reactor
  owes it (`NotStuck`); and each of those situations does lead on (`C02_*_reconnects`, `C02_owed_close_arms_idle_hold`).

  Liveness, from the resting situation "Idle, idle-hold timer due": whatever the earlier history left in the state -
  negotiated hold time, capability dictionaries, counters, left-over timers, old connections in any phase - a peer that
  accepts TCP and sends a valid OPEN and a KEEPALIVE brings the session to Established in four events and no virtual
  time, with the hold time negotiated from the configuration and the peer's OPEN only; and an Established session stays
  Established under KEEPALIVE traffic.  Props/C02b.lean (`C02_reestablishes`) extends this to every reachable state: a
  cooperative continuation leads to the resting situation, and from there on as here.
-/
import Yabgp.Lemmas.Skel
import Yabgp.Lemmas.OneFrame
import Yabgp.Props.C01

namespace Yabgp
open Sess

variable (U : Bool → Bytes → UpdClass)

def ConnUp (s : Sess) (i : Nat) : Prop :=
  i < s.conns.length ∧ (s.conn i).phase = .connected ∧ (s.conn i).disconnected = false

/-- we closed a connection and the reactor still owes us its connectionLost -/
def CloseOwed (s : Sess) : Prop :=
  ∃ i, i < s.conns.length ∧ (s.conn i).phase = .closing ∧ (s.conn i).disconnected = true

def InSession (s : Sess) : Prop := s.st = .openSent ∨ s.st = .openConfirm ∨ s.st = .established

/-- the agent is not stuck: a session is being set up / is up on a live tracked connection; or it is in Connect with
    the connect-retry timer running (or a connection already up and waiting for the peer); or it is Idle with the
    idle-hold timer running or the close of a connection still to be reported (which arms the idle-hold timer) -/
def NotStuck (s : Sess) : Prop :=
  (InSession s ∧ ∃ i, s.proto = some i ∧ ConnUp s i) ∨
  (s.st = .connect ∧ (s.tm.retry.isSome = true ∨ ∃ i, s.proto = some i ∧ ConnUp s i)) ∨
  (s.st = .idle ∧ (s.tm.idleHold.isSome = true ∨ CloseOwed s))

theorem conn_of_core {s : Sess} {i : Nat} {p : Phase} {b : Bool}
    (h : i < (core s).conns.length ∧ (core s).conn i = (p, b)) :
    i < s.conns.length ∧ (s.conn i).phase = p ∧ (s.conn i).disconnected = b := by
  obtain ⟨h1, h2⟩ := h
  rw [core_conn, pd, Prod.mk.injEq] at h2
  exact ⟨by simpa [core] using h1, h2⟩

theorem connUp_of_core {s : Sess} {i : Nat} (h : Core.Up (core s) i) : ConnUp s i := conn_of_core h

theorem closeOwed_of_core {s : Sess} (h : Core.Owed (core s)) : CloseOwed s := h.imp fun _ => conn_of_core

theorem notStuck_of_heal {s : Sess} (h : Core.Heal (core s)) (ha : s.allowAuto = true) : NotStuck s := by
  by_cases hi : InSession s
  · obtain ⟨i, h1, -, h3⟩ := h.sess hi
    exact Or.inl ⟨hi, i, h1, connUp_of_core h3⟩
  · cases hs : s.st
    case idle => exact Or.inr (Or.inr ⟨hs, (h.idle ha hs).imp_right closeOwed_of_core⟩)
    case connect => exact Or.inr (Or.inl ⟨hs, (h.conn ha hs).imp_right fun ⟨i, h1, h2⟩ => ⟨i, h1, connUp_of_core h2⟩⟩)
    case active => exact absurd hs h.noActive
    all_goals exact absurd (by simp [InSession, hs]) hi

theorem heal_first (cfg : Cfg) (e0 : Ev) (he0 : e0 = .boot ∨ e0 = .manualStart) :
    Core.Heal (core (step U (bootWorld cfg) e0).sess) :=
  (skel_first U cfg e0 he0).heal

theorem heal_step (w : World) (e : Ev) (hen : enabled w.sess e = true) (h : Core.Heal (core w.sess)) :
    Core.Heal (core (step U w e).sess) :=
  core_step_inv U Core.Heal (fun _ hc => Core.heal_frameOutcome hc) w e hen
    (fun hc he => Core.heal_stepOutcome hc e he) h

/-- **Never stuck.**  After the agent's start (its deferred automatic start, or an operator start before it), whatever
    happens next - any sequence of refused or timed-out connections, resets, protocol errors, malformed or
    unacceptable messages, timer expiries in any order, operator stops and starts - as long as the operator has not
    stopped the peer the agent is not stuck. -/
theorem C02_never_stuck (cfg : Cfg) (e0 : Ev) (he0 : e0 = .boot ∨ e0 = .manualStart) (evs : List Ev)
    (hen : EnabledRun U (step U (bootWorld cfg) e0) evs)
    (ha : (run U (bootWorld cfg) (e0 :: evs)).sess.allowAuto = true) :
    NotStuck (run U (bootWorld cfg) (e0 :: evs)).sess :=
  notStuck_of_heal (skel_of_run U cfg e0 he0 evs hen).heal ha

/-- idle-hold expiry (automatic start allowed): a new connection attempt is started at once, Connect, retry timer armed -/
theorem C02_idle_hold_expiry_reconnects (s : Sess) (hst : s.st = .idle) (ha : s.allowAuto = true) :
    (s.fireIdleHold).st = .connect ∧ (s.fireIdleHold).outs = s.outs ++ [.connect s.conns.length] ∧
    (s.fireIdleHold).tm.retry = some (s.now + 3 * s.cfg.retryT) :=
  let h := (C01_start_from_idle s hst).2 ha
  ⟨h.1, h.2.1, h.2.2.1⟩

/-- connect-retry expiry in Connect: a new connection attempt is started and the timer re-armed -/
theorem C02_retry_expiry_reconnects (s : Sess) (hst : s.st = .connect) :
    (s.fireRetry).st = .connect ∧ (s.fireRetry).tm.retry = some (s.now + 3 * s.cfg.retryT) ∧
    ∃ k, Out.connect k ∈ (s.fireRetry).outs := by
  simp only [fireRetry, hst]
  rw [connectTcp_eq _ (by simp [hst])]
  exact ⟨by simp [Sess.emit, withConns, hst], by simp [Sess.emit, withConns, setRetry, withTm, retryDeadline], _,
    List.mem_append_right _ (List.mem_singleton_self _)⟩

/-- the owed connectionLost of a connection we closed, arriving in Idle, arms the idle-hold timer -/
theorem C02_owed_close_arms_idle_hold (s : Sess) (i : Nat) (hst : s.st = .idle) (ha : s.allowAuto = true)
    (hd : (s.conn i).disconnected = true) :
    (s.connLost i).st = .idle ∧ (s.connLost i).tm.idleHold.isSome = true := by
  have hc : core (s.connLost i) = (core s).connLost i := core_connLost s i
  have h1 : ((core s).conn i).2 = true := by rw [core_conn]; exact hd
  have hst' : (core s).st = .idle := hst
  have ha' : (core s).allow = true := ha
  have key : ((core s).connLost i).st = .idle ∧ ((core s).connLost i).idleHold = true := by
    unfold Core.connLost
    rw [if_pos h1]
    unfold Core.connectionClosed Core.dropEstab
    simp only
    split <;> simp [Core.autoStart, Core.withSt, Core.withEstab, Core.setPhase, Core.setIdleHold, hst', ha']
  rw [← hc] at key
  exact key

theorem norm_of_core {s : Sess} {i : Nat} (hp : s.proto = some i) (h : Core.Up (core s) i) : Norm s i :=
  ⟨hp, (connUp_of_core h).1, (connUp_of_core h).2.1, (connUp_of_core h).2.2⟩

theorem up_of_norm {s : Sess} {i : Nat} (h : Norm s i) : Core.Up (core s) i := by
  refine ⟨by simp [core]; exact h.lt, ?_⟩
  rw [core_conn]; simp [pd, h.up, h.nd]

theorem norm_dispatch_insess {s : Sess} {i : Nat} (h : Norm s i) (j ty : Nat) (body : Bytes)
    (hs : Core.InSess (dispatch U s j ty body).1.st) : Norm (dispatch U s j ty body).1 i := by
  have hm := core_dispatch_mem U s j ty body
  obtain ⟨hc, hp⟩ := Core.frameOutcome_insess hm hs
  apply norm_of_core
  · have : (core (dispatch U s j ty body).1).proto = (core s).proto := hp
    exact this.trans h.proto
  · exact (up_of_norm h).of_conns hc

@[simp] theorem Sess.holdTime_fsmKeepaliveReceived (s : Sess) : s.fsmKeepaliveReceived.holdTime = s.holdTime := by
  unfold fsmKeepaliveReceived; split <;> simp

theorem fireIdleHold_idle (s : Sess) (hst : s.st = .idle) (ha : s.allowAuto = true) :
    s.fireIdleHold.st = .connect ∧ s.fireIdleHold.conns.length = s.conns.length + 1 ∧
    s.fireIdleHold.conn s.conns.length = {} ∧ s.fireIdleHold.cfg = s.cfg ∧ s.fireIdleHold.bgpId = s.bgpId ∧
    s.fireIdleHold.localCaps = s.localCaps ∧ s.fireIdleHold.remote = s.remote ∧ s.fireIdleHold.now = s.now := by
  have e : s.fireIdleHold =
      (((s.setIdleHold none).incRetryCounter.setRetry (some (s.setIdleHold none).retryDeadline)).withSt .connect).connectTcp := by
    have hal : (s.setIdleHold none).allowAuto = true := ha
    simp only [fireIdleHold, autoStart, hst, st_setIdleHold, hal, if_true, Bool.false_eq_true, if_false]
    rw [setSt_of_ne _ (by simp)]
  rw [e, connectTcp_eq _ (by simp)]
  simp [withPending, Sess.emit, withConns, withSt, setRetry, withTm, incRetryCounter, withRetryCounter, setIdleHold, Sess.conn]

/-- a pending connection attempt is accepted: OpenSent on it, whatever the FSM state was (BGPPeering.buildProtocol /
    connectionMade do not look at it) -/
theorem connOk_to_openSent (s : Sess) (j : Nat) (w : Bytes)
    (hlt : j < s.conns.length) (hph : (s.conn j).phase = .connecting) (hnd : (s.conn j).disconnected = false)
    (hw : constructOpen 4 s.cfg.localAs s.cfg.holdCfg (s.bgpId.getD s.cfg.localId) (negotiateCaps s.localCaps s.remote) = some w) :
    (s.connOk j).st = .openSent ∧ Norm (s.connOk j) j ∧ (s.connOk j).now = s.now ∧ (s.connOk j).cfg = s.cfg ∧
    Out.write j w ∈ (s.connOk j).outs := by
  have hup : Core.Up (core (s.connOk j)) j := by
    rw [core_connOk]
    exact (Core.connOk_up j (by simpa [core] using hlt) (by rw [core_conn, pd, hph, hnd]) _).2
  rw [connOk_eq s j w hlt hw] at hup ⊢
  refine ⟨rfl, norm_of_core rfl hup, ?_, ?_, ?_⟩
  · cases s; rfl
  · cases s; rfl
  · simp [Sess.emit, bumpSent, setConn, withConns, setHold, withTm, withSt]

theorem heal_to_openSent (s : Sess) (rb : Nat → Bytes) (w : Bytes)
    (hst : s.st = .idle) (ha : s.allowAuto = true) (hdue : ∃ d, s.tm.idleHold = some d ∧ d ≤ s.now)
    (hw : constructOpen 4 s.cfg.localAs s.cfg.holdCfg (s.bgpId.getD s.cfg.localId) (negotiateCaps s.localCaps s.remote) = some w) :
    EnabledRun U ⟨s, rb⟩ [.fire .idleHold, .connOk s.conns.length] ∧
    (run U ⟨s, rb⟩ [.fire .idleHold, .connOk s.conns.length]).rbuf = rb ∧
    (run U ⟨s, rb⟩ [.fire .idleHold, .connOk s.conns.length]).sess.st = .openSent ∧
    Norm (run U ⟨s, rb⟩ [.fire .idleHold, .connOk s.conns.length]).sess s.conns.length ∧
    (run U ⟨s, rb⟩ [.fire .idleHold, .connOk s.conns.length]).sess.now = s.now ∧
    (run U ⟨s, rb⟩ [.fire .idleHold, .connOk s.conns.length]).sess.cfg = s.cfg ∧
    Out.write s.conns.length w ∈ (run U ⟨s, rb⟩ [.fire .idleHold, .connOk s.conns.length]).sess.outs := by
  obtain ⟨d, hd, hdn⟩ := hdue
  have h := fireIdleHold_idle (s.withOuts []) hst ha
  have e : run U ⟨s, rb⟩ [.fire .idleHold, .connOk s.conns.length] =
      ⟨((s.withOuts []).fireIdleHold.withOuts []).connOk s.conns.length, rb⟩ := rfl
  have en : enabled s (.fire .idleHold) = true := by simp only [enabled, timerOf, hd, decide_eq_true_eq]; exact hdn
  rw [e]
  generalize hs1 : (s.withOuts []).fireIdleHold = s1 at h
  dsimp only [withOuts] at h
  obtain ⟨-, hlen, hnew, c1, b1, l1, r1, n1⟩ := h
  have hk : s.conns.length < s1.conns.length := by rw [hlen]; exact Nat.lt_succ_self _
  have hw1 : constructOpen 4 s1.cfg.localAs s1.cfg.holdCfg (s1.bgpId.getD s1.cfg.localId)
      (negotiateCaps s1.localCaps s1.remote) = some w := by rw [c1, b1, l1, r1]; exact hw
  obtain ⟨h1, h2, h3, h4, h5⟩ := connOk_to_openSent (s1.withOuts []) s.conns.length w hk (congrArg Conn.phase hnew)
    (congrArg Conn.disconnected hnew) hw1
  refine ⟨⟨en, ?_, trivial⟩, rfl, h1, h2, h3.trans n1, h4.trans c1, h5⟩
  show enabled (s.withOuts []).fireIdleHold _ = true
  rw [hs1, enabled, hnew]
  exact decide_eq_true ⟨hk, rfl⟩

theorem chunk_one {w : World} {k : Nat} (hn : Norm w.sess k) (hrb : w.rbuf k = []) (ty : Nat) (body : Bytes)
    (hty : ty < 256) (hl : body.length + 19 ≤ 4096) (hcont : (dispatch U (w.sess.withOuts []) k ty body).2 = true) :
    enabled w.sess (.chunk k (wireOf ty body)) = true ∧
    step U w (.chunk k (wireOf ty body)) = ⟨(dispatch U (w.sess.withOuts []) k ty body).1, setRbuf w.rbuf k []⟩ := by
  refine ⟨decide_eq_true ⟨hn.lt, hn.up⟩, ?_⟩
  simp only [step, hrb, dataReceived_one U _ k ty body hty hl (hn.withOuts []).nd hcont]

theorem open_step {w : World} {k : Nat} (hn : Norm w.sess k) (hrb : w.rbuf k = []) (hst : w.sess.st = .openSent)
    (body : Bytes) (m : OpenMsg) (hparse : parseOpen body = .ok m) (has : m.asn = w.sess.cfg.remoteAs)
    (hh : ¬ (m.holdTime ≠ 0 ∧ m.holdTime < 3)) (hlen : body.length + 19 ≤ 4096) :
    enabled w.sess (.chunk k (wireOf 1 body)) = true ∧
    Norm (step U w (.chunk k (wireOf 1 body))).sess k ∧ (step U w (.chunk k (wireOf 1 body))).rbuf k = [] ∧
    (step U w (.chunk k (wireOf 1 body))).sess.st = .openConfirm ∧
    (step U w (.chunk k (wireOf 1 body))).sess.now = w.sess.now ∧
    (step U w (.chunk k (wireOf 1 body))).sess.holdTime = min w.sess.cfg.holdCfg m.holdTime := by
  have hn0 : Norm (w.sess.withOuts []) k := hn.withOuts []
  have a := C01_open_accepted U hn0 hst body m hparse has hh
  obtain ⟨en, e⟩ := chunk_one U hn hrb 1 body (by omega) hlen a.1
  rw [e]
  exact ⟨en, norm_dispatch_insess U hn0 k 1 body (by rw [a.2.1]; exact Or.inr (Or.inl rfl)), by simp [setRbuf], a.2.1,
    (frm_dispatch U 0 k _ 1 body).scal.now, a.2.2.1⟩

theorem keepalive_step {w : World} {k : Nat} (hn : Norm w.sess k) (hrb : w.rbuf k = [])
    (hst : w.sess.st = .openConfirm ∨ w.sess.st = .established) :
    enabled w.sess (.chunk k (wireOf 4 [])) = true ∧
    Norm (step U w (.chunk k (wireOf 4 []))).sess k ∧ (step U w (.chunk k (wireOf 4 []))).rbuf k = [] ∧
    (step U w (.chunk k (wireOf 4 []))).sess.st = .established ∧
    (step U w (.chunk k (wireOf 4 []))).sess.now = w.sess.now ∧
    (step U w (.chunk k (wireOf 4 []))).sess.holdTime = w.sess.holdTime := by
  have hn0 : Norm (w.sess.withOuts []) k := hn.withOuts []
  have hd := (dispatch_keepalive U (w.sess.withOuts []) k []).trans (if_pos rfl)
  have a : (dispatch U (w.sess.withOuts []) k 4 []).1.st = .established := by
    rcases hst with h | h
    · exact ((C01_keepalive_msg U hn0).1 h).1
    · exact ((C01_keepalive_msg U hn0).2.1 h).1
  obtain ⟨en, e⟩ := chunk_one U hn hrb 4 [] (by omega) (by simp) (by rw [hd])
  rw [e]
  exact ⟨en, norm_dispatch_insess U hn0 k 4 [] (by rw [a]; exact Or.inr (Or.inr rfl)), by simp [setRbuf], a,
    (frm_dispatch U 0 k _ 4 []).scal.now, by rw [hd]; simp⟩

theorem heal_from_openSent (s : Sess) (rb : Nat → Bytes) (k : Nat) (body : Bytes) (m : OpenMsg)
    (hn : Norm s k) (hst : s.st = .openSent) (hrb : rb k = [])
    (hparse : parseOpen body = .ok m) (has : m.asn = s.cfg.remoteAs) (hh : ¬ (m.holdTime ≠ 0 ∧ m.holdTime < 3))
    (hlen : body.length + 19 ≤ 4096) :
    EnabledRun U ⟨s, rb⟩ [.chunk k (wireOf 1 body), .chunk k (wireOf 4 [])] ∧
    (run U ⟨s, rb⟩ [.chunk k (wireOf 1 body), .chunk k (wireOf 4 [])]).sess.st = .established ∧
    (run U ⟨s, rb⟩ [.chunk k (wireOf 1 body), .chunk k (wireOf 4 [])]).sess.now = s.now ∧
    (run U ⟨s, rb⟩ [.chunk k (wireOf 1 body), .chunk k (wireOf 4 [])]).sess.holdTime = min s.cfg.holdCfg m.holdTime ∧
    (run U ⟨s, rb⟩ [.chunk k (wireOf 1 body), .chunk k (wireOf 4 [])]).sess.proto = some k := by
  obtain ⟨e1, n1, b1, s1, t1, h1⟩ := open_step U (w := ⟨s, rb⟩) hn hrb hst body m hparse has hh hlen
  obtain ⟨e2, n2, _, s2, t2, h2⟩ := keepalive_step U n1 b1 (Or.inl s1)
  exact ⟨⟨e1, e2, trivial⟩, s2, t2.trans t1, h2.trans h1, n2.proto⟩

/-- the cooperative continuation: the timer fires, the peer accepts the connection, sends its OPEN, sends a KEEPALIVE -/
def healEvents (k : Nat) (body : Bytes) : List Ev :=
  [.fire .idleHold, .connOk k, .chunk k (wireOf 1 body), .chunk k (wireOf 4 [])]

/-- **Re-establishment from the resting situation.**  Idle, idle-hold timer due, automatic start allowed - and
    ANYTHING else in the state (hold time left over from earlier sessions, capability dictionaries, counters, other
    timers, older connections in any phase).  The timer fires, the peer accepts the connection, sends a valid OPEN
    (its AS as configured, hold time 0 or ≥ 3) and a KEEPALIVE: after these four events, without any virtual time
    passing, the session is Established on the new connection, our OPEN `w` built from the configuration has been
    written to it, and the hold time in force is min(configured, proposed) - nothing of the past enters.
    (`hw`: the agent's OPEN can be built, i.e. the configured capabilities are encodable.) -/
theorem C02_heals_from_idle_hold (s : Sess) (rb : Nat → Bytes) (w body : Bytes) (m : OpenMsg)
    (hst : s.st = .idle) (ha : s.allowAuto = true) (hdue : ∃ d, s.tm.idleHold = some d ∧ d ≤ s.now)
    (hfresh : rb s.conns.length = [])
    (hw : constructOpen 4 s.cfg.localAs s.cfg.holdCfg (s.bgpId.getD s.cfg.localId) (negotiateCaps s.localCaps s.remote) = some w)
    (hparse : parseOpen body = .ok m) (has : m.asn = s.cfg.remoteAs) (hh : ¬ (m.holdTime ≠ 0 ∧ m.holdTime < 3))
    (hlen : body.length + 19 ≤ 4096) :
    EnabledRun U ⟨s, rb⟩ (healEvents s.conns.length body) ∧
    (run U ⟨s, rb⟩ (healEvents s.conns.length body)).sess.st = .established ∧
    (run U ⟨s, rb⟩ (healEvents s.conns.length body)).sess.now = s.now ∧
    (run U ⟨s, rb⟩ (healEvents s.conns.length body)).sess.holdTime = min s.cfg.holdCfg m.holdTime ∧
    (run U ⟨s, rb⟩ (healEvents s.conns.length body)).sess.proto = some s.conns.length := by
  have h1 := heal_to_openSent U s rb w hst ha hdue hw
  have happ : healEvents s.conns.length body =
      [.fire .idleHold, .connOk s.conns.length] ++ [.chunk s.conns.length (wireOf 1 body), .chunk s.conns.length (wireOf 4 [])] := rfl
  generalize hw1 : run U ⟨s, rb⟩ [.fire .idleHold, .connOk s.conns.length] = w1 at h1
  obtain ⟨hen1, hrb1, hst1, hn1, hnow1, hcfg1, _⟩ := h1
  have hw1' : w1 = ⟨w1.sess, rb⟩ := by cases w1; simp at hrb1; simp [hrb1]
  have h2 := heal_from_openSent U w1.sess rb s.conns.length body m hn1 hst1 hfresh hparse (by rw [hcfg1]; exact has) hh hlen
  rw [← hw1'] at h2
  rw [happ, run_append, hw1]
  refine ⟨?_, h2.2.1, h2.2.2.1.trans hnow1, ?_, h2.2.2.2.2⟩
  · exact enabledRun_append U _ _ _ hen1 (by rw [hw1]; exact h2.1)
  · rw [h2.2.2.2.1, hcfg1]

def KeepaliveTraffic (k : Nat) : Ev → Prop
  | .fire .keepalive => True
  | .chunk c d => c = k ∧ d = wireOf 4 []
  | .advance _ => True
  | _ => False

/-- **…and then stays up.**  In Established on an up, tracked connection, our own keepalive timer, the peer's KEEPALIVEs
    and the passing of time (as long as no other timer becomes due - the hold timer is restarted by every KEEPALIVE,
    C03) leave the session Established on the same connection. -/
theorem C02_stays_established (k : Nat) (evs : List Ev) : ∀ (w : World),
    w.sess.st = .established → Norm w.sess k → w.rbuf k = [] → (∀ e ∈ evs, KeepaliveTraffic k e) → EnabledRun U w evs →
    (run U w evs).sess.st = .established ∧ Norm (run U w evs).sess k ∧ (run U w evs).rbuf k = [] := by
  induction evs with
  | nil => intro w h1 h2 h3 _ _; exact ⟨h1, h2, h3⟩
  | cons e r ih =>
    intro w h1 h2 h3 hk hen
    have hke := hk e (List.mem_cons_self ..)
    suffices h : (step U w e).sess.st = .established ∧ Norm (step U w e).sess k ∧ (step U w e).rbuf k = [] from
      ih _ h.1 h.2.1 h.2.2 (fun e' he' => hk e' (List.mem_cons_of_mem _ he')) hen.2
    have hn0 : Norm (w.sess.withOuts []) k := h2.withOuts []
    cases e <;> try exact hke.elim
    case chunk c d =>
      obtain ⟨rfl, rfl⟩ := hke
      obtain ⟨_, n, b, s, _⟩ := keepalive_step U h2 h3 (Or.inr h1)
      exact ⟨s, n, b⟩
    case advance dt => exact ⟨h1, hn0.of_conns rfl rfl, h3⟩
    case fire t =>
      cases t <;> try exact hke.elim
      have hc : core (w.sess.withOuts []).fireKeepalive = core (w.sess.withOuts []) := by
        rw [core_fireKeepalive, Core.fireKeepalive, show (core (w.sess.withOuts [])).st = .established from h1]
      exact ⟨(C01_keepalive_timer_expires hn0 (Or.inr h1)).2.1.trans h1,
        norm_of_core ((congrArg Core.proto hc).trans hn0.proto) (hc ▸ up_of_norm hn0), h3⟩

/-- non-vacuity of the resting situation: it is what a refused connection leaves behind -/
example : ∃ s : Sess, s.st = .idle ∧ s.allowAuto = true ∧ s.tm.idleHold.isSome = true := by
  refine ⟨(run (fun _ _ => .good) (bootWorld exCfg) [.boot, .connFail 0]).sess, ?_, ?_, ?_⟩ <;> decide

end Yabgp

#print axioms Yabgp.C02_never_stuck
#print axioms Yabgp.C02_idle_hold_expiry_reconnects
#print axioms Yabgp.C02_retry_expiry_reconnects
#print axioms Yabgp.C02_owed_close_arms_idle_hold
#print axioms Yabgp.C02_heals_from_idle_hold
#print axioms Yabgp.C02_stays_established
