/-
  C18, sent side, cumulative over every history: after any sequence of events from the agent's start, for every
  connection and every message type, the sent counter of that connection equals the number of messages of that
  type the agent wrote to it.  (Props/C18.lean has the per-send statement and the received side.)

  The proof is an invariant over all runs: every action is `Clean` - balanced, and no exception leaves it
  (Lemmas/SentBal.lean, Lemmas/CleanReact.lean) - provided each send helper is called with the tracked connection up,
  and that is what the reachable-state invariants `Heal` (a session state has a live tracked connection) and `One` (an open connection is
  the tracked one) of C02 / C12 give at every call site.  Props/C10b.lean reads "nothing escapes" off the same pass.
-/
import Yabgp.Props.C01b
import Yabgp.Lemmas.CleanReact

namespace Yabgp
open Sess

variable (U : Bool → Bytes → UpdClass)

theorem clean_drain (c : Nat) : ∀ (fuel : Nat) (s : Sess) (buf : Bytes), Tracked s c → Clean s (drain U fuel s c buf).1 := by
  intro fuel
  induction fuel with
  | zero => intro s buf _; exact .refl _
  | succ n ih =>
    intro s buf ht
    have hb := clean_parseBuffer U ht buf
    simp only [drain]
    cases hr : (parseBuffer U s c buf).2 with
    | none => exact hb
    | some rest => exact hb.trans (ih _ rest (ht.of_frm (parseBuffer_frm U s c buf)))

theorem clean_manualStop {s : Sess} (hs : s.st = .established → ∃ i, Norm s i) : Clean s s.manualStop := by
  unfold manualStop
  split
  · rename_i h
    obtain ⟨i, hn⟩ := hs h
    exact (clean_sendNotification hn _ _ _ (by decide) (by decide) (by decide)).trans (quiet_ev.stopTail _).clean
  · exact (quiet_ev.stopTail _).clean

theorem bal_manualStop {s : Sess} (hs : s.st = .established → ∃ i, Norm s i) : Bal s s.manualStop := (clean_manualStop hs).1

theorem clean_fireRetry {s : Sess} (hs : InSession s → ∃ i, Norm s i) : Clean s s.fireRetry := by
  have again : Quiet s ((((s.setRetry none).closeConn).setRetry (some s.retryDeadline)).connectTcp) :=
    (((ext_setRetry s _).trans (quiet_ev.closeConn _)).trans (ext_setRetry _ _)).trans (quiet_ev.connectTcp _)
  have note : InSession s → Clean s ((s.setRetry none).sendNotification C.errFsm 0 []).errorClose := fun h => by
    obtain ⟨i, hn⟩ := hs h
    exact (ext_setRetry s _).clean.trans (clean_notifyClose (hn.setRetry _) _ _ _ (by decide) (by decide) (by decide))
  unfold fireRetry
  cases hst : s.st with
  | idle => exact (ext_setRetry s _).clean
  | connect => exact again.clean
  | active => exact again.clean
  | openSent => exact note (Or.inl hst)
  | openConfirm => exact note (Or.inr (Or.inl hst))
  | established => exact note (Or.inr (Or.inr hst))

theorem clean_fireHold {s : Sess} (hs : InSession s → ∃ i, Norm s i) : Clean s s.fireHold := by
  have key : InSession s → Clean s (((((s.setHold none).sendNotification C.errHold 0 []).setRetry none).errorClose).setSt .idle) := by
    intro h
    obtain ⟨i, hn⟩ := hs h
    exact (((ext_setHold s _).clean.trans
      (clean_sendNotification (hn.setHold _) _ _ _ (by decide) (by decide) (by decide))).trans
      (((ext_setRetry _ _).trans (quiet_ev.errorClose _)).trans (quiet_ev.setSt _ _)).clean)
  unfold fireHold
  split
  · rename_i h; exact key (Or.inl h)
  · rename_i h; exact key (Or.inr (Or.inl h))
  · rename_i h; exact key (Or.inr (Or.inr h))
  · exact ((ext_setHold s _).trans (quiet_ev.errorClose _)).clean
  · exact ((ext_setHold s _).trans (quiet_ev.errorClose _)).clean
  · exact (ext_setHold s _).clean

theorem clean_fireKeepalive {s : Sess} (hs : InSession s → ∃ i, Norm s i) : Clean s s.fireKeepalive := by
  have key : InSession s → Clean s (if s.holdTime > 0 then ((s.setKeepalive none).sendKeepalive).setKeepalive (some (s.now + s.kaTicks))
      else (s.setKeepalive none).sendKeepalive) := by
    intro h
    obtain ⟨i, hn⟩ := hs h
    have hk := (ext_setKeepalive s none).clean.trans (clean_sendKeepalive (hn.setKeepalive _))
    split
    · exact hk.trans (ext_setKeepalive _ _).clean
    · exact hk
  unfold fireKeepalive
  split
  · rename_i h; exact key (Or.inr (Or.inl h))
  · rename_i h; exact key (Or.inr (Or.inr h))
  · exact ((ext_setKeepalive s _).trans (quiet_ev.errorClose _)).clean
  · exact ((ext_setKeepalive s _).trans (quiet_ev.errorClose _)).clean
  · exact (ext_setKeepalive s _).clean

theorem clean_connectionMade {s : Sess} {i : Nat} (hp : s.proto = some i) (hlt : i < s.conns.length)
    (hup : transportUp (s.conn i) = true) : Clean s s.connectionMade := by
  have ho : Clean s ((s.setRetry none).setIdleHold none).sendOpen.1 :=
    ((ext_setRetry s _).trans (ext_setIdleHold _ _)).clean.trans (clean_sendOpen hp hlt hup)
  unfold connectionMade
  split
  · exact ho.trans ((ext_setHold _ _).trans (quiet_ev.setSt _ _)).clean
  · exact ho

/-- `connectionMade` runs on the state in which `_initProtocol` has recorded the new protocol object -/
theorem clean_made_after {v : Sess} {i : Nat} (a b : Option Nat) (hp : v.proto = some i) (hlt : i < v.conns.length)
    (hup : transportUp (v.conn i) = true) : Clean v ((v.withEstab a).withBgpId b).connectionMade :=
  ((ext_withEstab v a).trans (ext_withBgpId _ b)).clean.trans (clean_connectionMade hp hlt hup)

theorem clean_connOk (s : Sess) (i : Nat) (hlt : i < s.conns.length) : Clean s (s.connOk i) := by
  have hq : Quiet s (((s.setPhase i .connected).withProto (some i)).setSt .connect) :=
    ((ext_setPhase s i _ fun _ _ => rfl).trans (ext_withProto _ _)).trans (quiet_ev.setSt _ _)
  -- `setSt` leaves `proto` and `conns` alone, but not by computation: rewrite with its field equations
  refine hq.clean.trans (clean_made_after (i := i) _ _ ((proto_setSt _ _).trans rfl) ?_ ?_)
  · rw [conns_setSt]
    exact Nat.lt_of_lt_of_eq hlt (len_setConn s i _).symm
  · rw [conn, conns_setSt]
    exact (congrArg transportUp ((conn_setConn s i i _).trans (if_pos ⟨rfl, hlt⟩))).trans rfl

theorem norm_of_heal {s : Sess} (h : Core.Heal (core s)) (hs : InSession s) : ∃ i, Norm s i :=
  let ⟨i, hp, _, hup⟩ := h.sess hs
  ⟨i, norm_of_core hp hup⟩

/-- `Heal` and `One` are what puts the tracked connection up at every call of a send helper -/
theorem clean_step (w : World) (e : Ev) (hen : enabled w.sess e = true)
    (hh : Core.Heal (core w.sess)) (ho : Core.One (core w.sess)) : Clean (w.sess.withOuts []) (step U w e).sess := by
  have hh0 : Core.Heal (core (w.sess.withOuts [])) := hh
  have hins : InSession (w.sess.withOuts []) → ∃ i, Norm (w.sess.withOuts []) i := norm_of_heal hh0
  cases e with
  | boot => exact (quiet_ev.autoStart _ _).clean
  | manualStart => exact (quiet_ev.manualStart _).clean
  | manualStop => exact clean_manualStop (fun h => hins (Or.inr (Or.inr h)))
  | connOk c =>
    simp only [enabled, decide_eq_true_eq] at hen
    exact clean_connOk _ c hen.1
  | connFail c => exact (quiet_ev.connFail _ _).clean
  | lost c => exact (quiet_ev.connLost _ _).clean
  | advance dt => exact (ext_withNow _ _).clean
  | fire t =>
    cases t with
    | retry => exact clean_fireRetry hins
    | hold => exact clean_fireHold hins
    | keepalive => exact clean_fireKeepalive hins
    | idleHold => exact (quiet_ev.fireIdleHold _).clean
  | chunk c d =>
    simp only [enabled, decide_eq_true_eq] at hen
    have htr := ho.tracked_sess hen.1 hen.2
    simp only [step, dataReceived]
    exact clean_drain U c _ (w.sess.withOuts []) _ ⟨htr.1, hen.1, .inl hen.2⟩

theorem quiet_start (w : World) (e0 : Ev) (he0 : e0 = .boot ∨ e0 = .manualStart) :
    Quiet (w.sess.withOuts []) (step U w e0).sess := by
  rcases he0 with rfl | rfl
  · exact quiet_ev.autoStart _ _
  · exact quiet_ev.manualStart _

theorem bal_step (w : World) (e : Ev) (hen : enabled w.sess e = true)
    (hh : Core.Heal (core w.sess)) (ho : Core.One (core w.sess)) : Bal (w.sess.withOuts []) (step U w e).sess :=
  (clean_step U w e hen hh ho).1

/-- the outputs are cleared before a step, so `Bal` across it is an equation -/
theorem Sess.Bal.sent {s s' : Sess} (h : Bal (s.withOuts []) s') (i ty : Nat) :
    sentOf (s'.conn i).sent ty = sentOf (s.conn i).sent ty + wcount s'.outs i ty := by
  have := h i ty
  have h0 : wcount (s.withOuts []).outs i ty = 0 := rfl
  have h1 : (s.withOuts []).conn i = s.conn i := rfl
  rw [h0, h1] at this
  omega

/-- the same, as an equation: the sent counters after the step are those before plus the messages the step wrote -/
theorem C18_sent_step (w : World) (e : Ev) (hen : enabled w.sess e = true)
    (hh : Core.Heal (core w.sess)) (ho : Core.One (core w.sess)) (i ty : Nat) :
    sentOf ((step U w e).sess.conn i).sent ty = sentOf (w.sess.conn i).sent ty + wcount (step U w e).sess.outs i ty :=
  (bal_step U w e hen hh ho).sent i ty

theorem wcount_append (a b : List Out) (i ty : Nat) : wcount (a ++ b) i ty = wcount a i ty + wcount b i ty := by
  simp [wcount, List.countP_append]

theorem sent_run (evs : List Ev) : ∀ (w : World), Core.Skel (core w.sess) → EnabledRun U w evs → ∀ i ty,
    sentOf ((run U w evs).sess.conn i).sent ty = sentOf (w.sess.conn i).sent ty + wcount (runOuts U w evs) i ty :=
  run_induction U (skel_step U)
    (Q := fun w evs => ∀ i ty,
      sentOf ((run U w evs).sess.conn i).sent ty = sentOf (w.sess.conn i).sent ty + wcount (runOuts U w evs) i ty)
    (fun _ _ _ _ => rfl)
    (fun w e r hen hk ih i ty => by
      have h1 := C18_sent_step U w e hen hk.heal hk.one i ty
      simp only [run, runOuts, wcount_append]
      rw [ih i ty, h1]
      omega) evs

/-- **C18, sent side, every history.**  After the agent's start (the deferred automatic start or an operator start)
    and any sequence of enabled events - connection results, peer data in any segmentation, timer expiries, operator
    commands, including every error path that sends a NOTIFICATION - the sent counter of every connection for every
    message type equals the number of messages of that type written to that connection in the whole history. -/
theorem C18_sent_cumulative (cfg : Cfg) (e0 : Ev) (he0 : e0 = .boot ∨ e0 = .manualStart) (evs : List Ev)
    (hen : EnabledRun U (step U (bootWorld cfg) e0) evs) (i ty : Nat) :
    sentOf ((run U (bootWorld cfg) (e0 :: evs)).sess.conn i).sent ty = wcount (runOuts U (bootWorld cfg) (e0 :: evs)) i ty := by
  have hrest := sent_run U evs _ (skel_first U cfg e0 he0) hen i ty
  -- the first step, from the initial state (no connection yet, so every counter is zero and nothing can be sent)
  have h1 := (quiet_start U (bootWorld cfg) e0 he0).bal.sent i ty
  have hz : sentOf ((bootWorld cfg).sess.conn i).sent ty = 0 := by simp [bootWorld, boot, conn, sentOf]
  show sentOf ((run U (step U (bootWorld cfg) e0) evs).sess.conn i).sent ty =
    wcount ((step U (bootWorld cfg) e0).sess.outs ++ runOuts U (step U (bootWorld cfg) e0) evs) i ty
  rw [wcount_append, hrest, h1, hz, Nat.zero_add]

/-- non-vacuity: the connection is made (one OPEN written and counted), then the peer sends 19 octets that do not
    start with the marker (one NOTIFICATION written and counted on the error path) - the theorem's conclusion evaluated
    on a concrete history -/
example :
    let cfg : Cfg := { localAs := 65001, remoteAs := 65002, holdCfg := 180, retryT := 30, idleHoldT := 30, localId := 1, caps0 := {} }
    let evs : List Ev := [.boot, .connOk 0, .chunk 0 (List.replicate 19 0)]
    wcount (runOuts (fun _ _ => .good) (bootWorld cfg) evs) 0 1 = 1 ∧
    sentOf ((run (fun _ _ => .good) (bootWorld cfg) evs).sess.conn 0).sent 1 = 1 ∧
    wcount (runOuts (fun _ _ => .good) (bootWorld cfg) evs) 0 3 = 1 ∧
    sentOf ((run (fun _ _ => .good) (bootWorld cfg) evs).sess.conn 0).sent 3 = 1 ∧
    EnabledRun (fun _ _ => .good) (step (fun _ _ => .good) (bootWorld cfg) .boot) (evs.drop 1) := by
  intro cfg evs
  refine ⟨by decide, by decide, by decide, by decide, ?_⟩
  exact ⟨by decide, by decide, trivial⟩

end Yabgp

#print axioms Yabgp.C18_sent_step
#print axioms Yabgp.C18_sent_cumulative
