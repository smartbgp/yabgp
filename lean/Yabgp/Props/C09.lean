/-
  C09 — decoding agrees with an independent RFC encoder, including the legal variants the agent never emits,
  and the malformations the decoder checks are reported as errors instead of values.
  Property theorems and the soundness of the executable well-formedness test (helper lemmas: Lemmas/RefRt, PrefixRt).
-/
import Yabgp.Props.C06

namespace Yabgp
open Spec

/-- the messages the reference encoder is asked for -/
structure RefValid (asn4 addpath : Bool) (wd : List RefPfx) (attrs : List RefAttr) (nlri : List RefPfx) : Prop where
  hattrs : ∀ a ∈ attrs, a.code < 256 ∧ AttrOkR asn4 a.code a.val ∧ (refValue asn4 a.code a.val).length < 65536
  nodup : (attrs.map (·.code)).Nodup
  hnlri : ∀ p ∈ nlri, RefPfxOk addpath p
  hwithdraw : ∀ p ∈ wd, RefPfxOk addpath p
  wlen : (wd.flatMap refPfx).length < 65536
  alen : (attrs.flatMap (refAttr asn4)).length < 65536

/-- **value half.**  Whatever the reference encoder produces from well-formed input — any attribute order,
    extended length on or off per attribute, Partial bit on or off, several AS_PATH segments, AS4_PATH and
    AS4_AGGREGATOR, either AS width, add-path identifiers, any trailing bits in prefixes — the decoder returns
    exactly the encoded values and flags no error. -/
theorem C09_decodes_reference (asn4 addpath : Bool) (wd : List RefPfx) (attrs : List RefAttr) (nlri : List RefPfx)
    (hv : RefValid asn4 addpath wd attrs nlri) :
    parseUpdate asn4 addpath (refUpdateBody asn4 wd attrs nlri) =
      some { withdraw := wd.map RefPfx.toPfx, nlri := nlri.map RefPfx.toPfx,
             attr := attrs.map (fun a => (a.code, a.val)), subError := none } := by
  have hA := attrLoop_ref asn4 attrs [] hv.hattrs (by simpa [keys] using hv.nodup)
  rw [refUpdateBody, parseUpdate_layout asn4 addpath _ _ _ hv.wlen hv.alen (parsePrefixList_ref_all _ _ hv.hwithdraw),
    parsePrefixList_ref_all _ _ hv.hnlri, parseAttributes, hA]
  rfl

/-- **error half, attributes.**  After any well-formed attributes, an attribute whose value the decoder rejects
    with UPDATE error sub-code `s` makes the whole decode report `s`; the offending attribute contributes no
    value (the dictionary holds exactly the attributes before it), and nothing after it is decoded. -/
theorem C09_rejects_attribute (asn4 addpath : Bool) (wd : List RefPfx) (pre : List RefAttr) (nlri : List RefPfx)
    (bad rest v : Bytes) (f t s : Nat)
    (hv : RefValid asn4 addpath wd pre nlri)
    (hsplit : splitAttr (bad ++ rest) = some (f, t, v, rest))
    (hbad : parseAttrValue asn4 t v = .error (.upd s))
    (hlen : (pre.flatMap (refAttr asn4) ++ bad ++ rest).length < 65536) :
    parseUpdate asn4 addpath
        (be16 (wd.flatMap refPfx).length ++ wd.flatMap refPfx ++
         be16 (pre.flatMap (refAttr asn4) ++ bad ++ rest).length ++ (pre.flatMap (refAttr asn4) ++ bad ++ rest) ++
         nlri.flatMap refPfx) =
      some { withdraw := wd.map RefPfx.toPfx, nlri := nlri.map RefPfx.toPfx,
             attr := pre.map (fun a => (a.code, a.val)), subError := some s } := by
  have hA : parseAttributes asn4 (pre.flatMap (refAttr asn4) ++ bad ++ rest) =
      (pre.map (fun a => (a.code, a.val)), some s) := by
    unfold parseAttributes
    rw [List.append_assoc]
    have := attrLoop_ref_then asn4 pre (bad ++ rest) [] hv.hattrs (by simpa [keys] using hv.nodup)
    rw [this, parseAttrLoop_unfold asn4 _ _ (splitAttr_nonempty hsplit)]
    simp only [hsplit, hbad, List.nil_append]
  rw [parseUpdate_layout asn4 addpath _ _ _ hv.wlen hlen (parsePrefixList_ref_all _ _ hv.hwithdraw),
    parsePrefixList_ref_all _ _ hv.hnlri, hA]
  rfl

/-- ORIGIN above 2 → sub-code 6 (Invalid ORIGIN Attribute) -/
theorem C09_origin_rejected (asn4 : Bool) (n : UInt8) (r : Bytes) (h : 2 < n.toNat) :
    parseAttrValue asn4 1 (n :: r) = .error (.upd 6) := by
  simp [parseAttrValue_code, parseOrigin, C.eInvalidOrigin]; omega

theorem parseAsPath_bad_type (four : Bool) (segs : List (Nat × List Nat)) (t n : UInt8) (r : Bytes)
    (hs : ∀ s ∈ segs, SegOk four s) (ht : t.toNat < 1 ∨ 4 < t.toNat) :
    parseAsPath four (segsWire four segs ++ t :: n :: r) = .error (.upd 11) := by
  rw [parseAsPath_append four segs _ hs, parseAsPath_cons, if_pos ht]; rfl

/-- AS_PATH segment type outside 1..4 → sub-code 11 (Malformed AS_PATH), wherever the segment stands -/
theorem C09_segment_type_rejected (asn4 : Bool) (segs : List (Nat × List Nat)) (t n : UInt8) (r : Bytes)
    (hs : ∀ s ∈ segs, SegOk asn4 s) (ht : t.toNat < 1 ∨ 4 < t.toNat) :
    parseAttrValue asn4 2 (refValue asn4 2 (.asPath segs) ++ t :: n :: r) = .error (.upd 11) := by
  simp only [parseAttrValue_code, Nat.reduceEqDiff, ↓reduceIte, refValue, Nat.reduceBEq, Bool.or_false]
  rw [← segsWire, parseAsPath_bad_type asn4 segs t n r hs ht]; rfl

/-- the same for AS4_PATH, always in 4-octet form -/
theorem C09_as4_segment_type_rejected (asn4 : Bool) (segs : List (Nat × List Nat)) (t n : UInt8) (r : Bytes)
    (hs : ∀ s ∈ segs, SegOk true s) (ht : t.toNat < 1 ∨ 4 < t.toNat) :
    parseAttrValue asn4 17 (refValue asn4 17 (.asPath segs) ++ t :: n :: r) = .error (.upd 11) := by
  simp only [parseAttrValue_code, Nat.reduceEqDiff, ↓reduceIte, refValue, BEq.rfl, Bool.or_true]
  rw [← segsWire, parseAsPath_bad_type true segs t n r hs ht]; rfl

/-- wrong fixed lengths: MED, LOCAL_PREF, ORIGINATOR_ID other than 4 octets; NEXT_HOP not a multiple of 4;
    AGGREGATOR other than 6 (2-octet AS) / 8 (4-octet AS) → sub-code 5 (Attribute Length Error);
    ATOMIC_AGGREGATE with a body → sub-code 9 -/
theorem C09_med_length_rejected (asn4 : Bool) (v : Bytes) (h : v.length ≠ 4) :
    parseAttrValue asn4 4 v = .error (.upd 5) := by
  simp [parseAttrValue_code, parseU32, unpackI_none h, C.eAttrLen]; rfl

theorem C09_localpref_length_rejected (asn4 : Bool) (v : Bytes) (h : v.length ≠ 4) :
    parseAttrValue asn4 5 v = .error (.upd 5) := by
  simp [parseAttrValue_code, parseU32, unpackI_none h, C.eAttrLen]; rfl

theorem C09_originator_length_rejected (asn4 : Bool) (v : Bytes) (h : v.length ≠ 4) :
    parseAttrValue asn4 9 v = .error (.upd 5) := by
  simp [parseAttrValue_code, parseOriginatorId, unpackI_none h, C.eAttrLen]

theorem C09_nexthop_length_rejected (asn4 : Bool) (v : Bytes) (h : v.length % 4 ≠ 0) :
    parseAttrValue asn4 3 v = .error (.upd 5) := by
  simp [parseAttrValue_code, parseNextHop, h, C.eAttrLen]

theorem C09_atomic_length_rejected (asn4 : Bool) (v : Bytes) (h : v ≠ []) :
    parseAttrValue asn4 6 v = .error (.upd 9) := by
  simp [parseAttrValue_code, parseAtomicAgg, h, C.eOptionalAttr]

theorem C09_aggregator_length_rejected (asn4 : Bool) (v : Bytes) (h : v.length ≠ (if asn4 then 8 else 6)) :
    parseAttrValue asn4 7 v = .error (.upd 5) := by
  -- the address half alone is short or long: `v` without the AS number has 4 octets only if `v` has the right length
  have hip : ∀ k, v.length ≠ k + 4 → unpackI (v.drop k) = none := fun k hk =>
    unpackI_none (by rw [List.length_drop]; omega)
  simp only [parseAttrValue_code, Nat.reduceEqDiff, ↓reduceIte]
  cases asn4
  · rw [parseAggregator, if_neg Bool.false_ne_true, hip 2 h]; cases unpackH (v.take 2) <;> rfl
  · rw [parseAggregator, if_pos rfl, hip 4 h]; cases unpackI (v.take 4) <;> rfl

/-- **error half, prefixes.**  A prefix length octet above 32, after any well-formed entries (and, with add-path,
    after its path identifier), makes the list undecodable … -/
theorem C09_prefix_length_rejected (addpath : Bool) (ps : List RefPfx) (l : UInt8) (pid rest : Bytes)
    (hok : ∀ p ∈ ps, RefPfxOk addpath p) (hl : 32 < l.toNat)
    (hpid : pid.length = if addpath then 4 else 0) :
    parsePrefixList addpath (ps.flatMap refPfx ++ (pid ++ l :: rest)) = none := by
  rw [parsePrefixList_ref addpath ps _ hok]
  suffices parsePrefixList addpath (pid ++ l :: rest) = none by rw [this]; rfl
  cases addpath
  · simp only [Bool.false_eq_true, ↓reduceIte, List.length_eq_zero_iff] at hpid
    subst hpid
    simp only [List.nil_append]
    rw [parsePrefixList_cons]
    simp [stepPrefix, parseOnePrefix, hl]
  · simp only [↓reduceIte] at hpid
    match pid, hpid with
    | [a, b, c, d], _ =>
      simp only [List.cons_append, List.nil_append]
      rw [parsePrefixList_cons]
      simp [stepPrefix, rd32, parseOnePrefix, hl]

/-- … and the decode of a message carrying it among the announced (or the withdrawn) prefixes reports an error
    (sub-code 10, Invalid Network Field, unless an attribute error takes precedence) and returns no announced
    prefix at all -/
theorem C09_rejects_prefix (asn4 addpath : Bool) (wd : List RefPfx) (attrs : List RefAttr) (ps : List RefPfx)
    (l : UInt8) (pid rest : Bytes)
    (hv : RefValid asn4 addpath wd attrs ps) (hl : 32 < l.toNat) (hpid : pid.length = if addpath then 4 else 0) :
    parseUpdate asn4 addpath
        (be16 (wd.flatMap refPfx).length ++ wd.flatMap refPfx ++
         be16 (attrs.flatMap (refAttr asn4)).length ++ attrs.flatMap (refAttr asn4) ++
         (ps.flatMap refPfx ++ (pid ++ l :: rest))) =
      some { withdraw := wd.map RefPfx.toPfx, nlri := [],
             attr := attrs.map (fun a => (a.code, a.val)), subError := some 10 } := by
  have hA := attrLoop_ref asn4 attrs [] hv.hattrs (by simpa [keys] using hv.nodup)
  rw [parseUpdate_layout asn4 addpath _ _ _ hv.wlen hv.alen (parsePrefixList_ref_all _ _ hv.hwithdraw),
    C09_prefix_length_rejected addpath ps l pid rest hv.hnlri hl hpid, parseAttributes, hA]
  rfl

/-! soundness of the executable well-formedness test the correspondence suite applies to each generated case -/

theorem asnB_ok {four : Bool} {n : Nat} (h : asnB four n = true) : asnOk four n = true := by
  unfold asnB at h; unfold asnOk; cases four <;> simpa using h

theorem segB_ok {four : Bool} {s : Nat × List Nat} (h : segB four s = true) : SegOk four s := by
  simp only [segB, Bool.and_eq_true, decide_eq_true_eq, List.all_eq_true] at h
  exact ⟨h.1.1.1, h.1.1.2, h.1.2, fun x hx => asnB_ok (h.2 x hx)⟩

theorem attrValB_ok {asn4 : Bool} {code : Nat} {v : AttrVal} (h : attrValB asn4 code v = true) :
    AttrOkR asn4 code v := by
  unfold AttrOkR
  cases v with
  | origin n => left; simpa [attrValB, AttrOk] using h
  | asPath segs =>
    simp only [attrValB, Bool.or_eq_true, Bool.and_eq_true, beq_iff_eq, List.all_eq_true] at h
    rcases h with ⟨hc, hs⟩ | ⟨hc, hs⟩
    · left; exact ⟨hc, fun s hs' => segB_ok (hs s hs')⟩
    · right; left; exact ⟨hc, segs, rfl, fun s hs' => segB_ok (hs s hs')⟩
  | nextHop ip => left; simpa [attrValB, AttrOk, u32B] using h
  | med n => left; simpa [attrValB, AttrOk, u32B] using h
  | localPref n => left; simpa [attrValB, AttrOk, u32B] using h
  | atomicAgg => left; simpa [attrValB, AttrOk] using h
  | aggregator a ip =>
    simp only [attrValB, Bool.or_eq_true, Bool.and_eq_true, beq_iff_eq, u32B, decide_eq_true_eq] at h
    rcases h with ⟨⟨hc, ha⟩, hi⟩ | ⟨⟨hc, ha⟩, hi⟩
    · left; exact ⟨hc, asnB_ok ha, hi⟩
    · right; right; left; exact ⟨hc, a, ip, rfl, ha, hi⟩
  | community cs => left; simpa [attrValB, AttrOk, u32B] using h
  | originatorId ip => left; simpa [attrValB, AttrOk, u32B] using h
  | clusterList ips => left; simpa [attrValB, AttrOk, u32B] using h
  | largeCommunity xs =>
    left
    simp only [attrValB, Bool.and_eq_true, beq_iff_eq, List.all_eq_true, u32B, decide_eq_true_eq] at h
    exact ⟨h.1, fun t ht => ⟨(h.2 t ht).1.1, (h.2 t ht).1.2, (h.2 t ht).2⟩⟩
  | raw b =>
    right; right; right
    simp only [attrValB, Bool.not_eq_true', List.contains_eq_mem, decide_eq_false_iff_not] at h
    exact ⟨h, b, rfl⟩
  | unmodelled c => simp [attrValB] at h

theorem refPfxB_ok {addpath : Bool} {p : RefPfx} (h : refPfxB addpath p = true) : RefPfxOk addpath p := by
  obtain ⟨addr, len, junk, pathId⟩ := p
  simp only [refPfxB, Bool.and_eq_true, decide_eq_true_eq, u32B] at h
  obtain ⟨⟨⟨⟨h1, h2⟩, h3⟩, h4⟩, h5⟩ := h
  refine ⟨h1, h2, h3, h4, ?_⟩
  cases pathId with
  | none => cases addpath <;> simp_all
  | some pid => cases addpath <;> simp_all

theorem nodupB_ok : ∀ {l : List Nat}, nodupB l = true → l.Nodup
  | [], _ => List.nodup_nil
  | x :: r, h => by
    simp only [nodupB, Bool.and_eq_true, Bool.not_eq_true', List.contains_eq_mem, decide_eq_false_iff_not] at h
    exact List.nodup_cons.mpr ⟨h.1, nodupB_ok h.2⟩

/-- every case the suite counts as an instance of C09 satisfies the hypotheses of `C09_decodes_reference` -/
theorem refValidB_sound {asn4 addpath : Bool} {wd : List RefPfx} {attrs : List RefAttr} {nlri : List RefPfx}
    (h : refValidB asn4 addpath wd attrs nlri = true) : RefValid asn4 addpath wd attrs nlri := by
  simp only [refValidB, Bool.and_eq_true, List.all_eq_true, decide_eq_true_eq] at h
  obtain ⟨⟨⟨⟨⟨ha, hn⟩, hnl⟩, hw⟩, hwl⟩, hal⟩ := h
  exact { hattrs := fun a haa => ⟨(ha a haa).1.1, attrValB_ok (ha a haa).1.2, (ha a haa).2⟩
          nodup := nodupB_ok hn
          hnlri := fun p hp => refPfxB_ok (hnl p hp)
          hwithdraw := fun p hp => refPfxB_ok (hw p hp)
          wlen := hwl
          alen := hal }

/-! non-vacuity: a message using every variant meets the hypotheses -/
def exAttrs : List RefAttr :=
  [ { code := 5, val := .localPref 100, ext := true },
    { code := 2, val := .asPath [(2, [65001, 23456]), (1, [7, 8])] },
    { code := 17, val := .asPath [(2, [65001, 70000])], partialBit := true },
    { code := 18, val := .aggregator 70000 167772161, ext := true },
    { code := 1, val := .origin 2 },
    { code := 3, val := .nextHop 16843009 } ]
def exNlri : List RefPfx :=
  [ { addr := 167772160, len := 9, junk := 5, pathId := some 7 }, { addr := 0, len := 0, junk := 0, pathId := some 1 } ]

theorem exValid : RefValid false true [] exAttrs exNlri := refValidB_sound (by decide)

example := C09_decodes_reference false true [] exAttrs exNlri exValid

end Yabgp

#print axioms Yabgp.C09_decodes_reference
#print axioms Yabgp.C09_rejects_attribute
#print axioms Yabgp.C09_rejects_prefix
#print axioms Yabgp.C09_segment_type_rejected
#print axioms Yabgp.refValidB_sound
