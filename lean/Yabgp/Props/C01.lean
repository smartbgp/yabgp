/-
  C01 — the session state machine follows the RFC 4271 §8 profile (active-only speaker, single
  connection regime).  One theorem per RFC event; each states, for every session state the event can
  occur in, the state reported afterwards, the messages emitted (NOTIFICATION code and sub-code, OPEN,
  KEEPALIVE) and the decision to close.  `Norm s i` is the single-connection situation: the state
  machine tracks connection `i`, which is up.
-/
import Yabgp.Lemmas.TmLemmas
import Yabgp.Props.C04

namespace Yabgp
open Sess

variable (U : Bool → Bytes → UpdClass)

/-- the observable reaction to a protocol error: exactly one NOTIFICATION (code, sub-code, data) written to the
    tracked connection, then the close; state Idle; hold/keepalive/connect-retry timers stopped and the
    idle-hold (restart) timer running -/
structure ErrorReaction (s s' : Sess) (i e sub : Nat) (d : Bytes) : Prop where
  outs : s'.outs = s.outs ++ [.write i (notifWire e sub d), .lose i]
  st : s'.st = .idle
  tm : s'.tm = { retry := none, hold := none, keepalive := none, idleHold := some s.idleDeadline }

/-- the reaction "drop the connection silently": no message, close, Idle, restart timer running -/
structure SilentClose (s s' : Sess) (i : Nat) : Prop where
  outs : s'.outs = s.outs ++ [.lose i]
  st : s'.st = .idle
  tm : s'.tm = { retry := none, hold := none, keepalive := none, idleHold := some s.idleDeadline }

theorem errorReaction_of_norm {s : Sess} {i : Nat} (h : Norm s i) (e sub : Nat) (d : Bytes)
    (he : e < 256) (hs : sub < 256) (hd : d.length + 21 < 65536) :
    ErrorReaction s ((s.sendNotification e sub d).errorClose) i e sub d :=
  ⟨outs_notifyClose_norm h e sub d he hs hd, st_errorClose _, by rw [tm_errorClose, idleDeadline_sendNotification]⟩

section
attribute [local simp] emit withNow withSt withTm withAllow withRetryCounter withHoldTime withProto withEstab
  withLocalCaps withRemote withBgpId withOuts setRetry setHold setKeepalive setIdleHold incRetryCounter setSt
  restartHold withConns C.errFsm C.errHold C.errCease C.errOpen C.errHdr

/-- Event 10, HoldTimer_Expires: in OpenSent, OpenConfirm and Established the agent sends NOTIFICATION
    Hold Timer Expired (4, 0), closes and goes to Idle; the event is ignored in Idle. -/
theorem C01_hold_timer_expires {s : Sess} {i : Nat} (h : Norm s i) :
    (s.st = .openSent ∨ s.st = .openConfirm ∨ s.st = .established →
      (s.fireHold).outs = s.outs ++ [.write i (notifWire 4 0 []), .lose i] ∧ (s.fireHold).st = .idle) ∧
    (s.st = .idle → (s.fireHold).outs = s.outs ∧ (s.fireHold).st = .idle) := by
  constructor
  · intro hst
    have hfire : s.fireHold = ((((s.setHold none).sendNotification 4 0 []).setRetry none).errorClose).setSt .idle := by
      rcases hst with h1 | h1 | h1 <;> simp [fireHold, h1]
    rw [hfire, sendNotification_norm (h.setHold none) _ _ _ (by decide) (by decide) (by decide)]
    have k := outs_errorClose_norm ((((h.setHold none).bumpSent i incNotifications).emit (.write i (notifWire 4 0 []))).setRetry none)
    exact ⟨by simpa [bumpSent, setConn] using k, st_setSt ..⟩
  · intro hst
    simp [fireHold, hst]

/-- Event 11, KeepaliveTimer_Expires: in OpenConfirm and Established a KEEPALIVE is sent on the tracked
    connection and the timer restarted (iff the hold time is not zero); state unchanged. -/
theorem C01_keepalive_timer_expires {s : Sess} {i : Nat} (h : Norm s i)
    (hst : s.st = .openConfirm ∨ s.st = .established) :
    (s.fireKeepalive).outs = s.outs ++ [.write i constructKeepalive] ∧ (s.fireKeepalive).st = s.st ∧
    (s.fireKeepalive).tm.keepalive = (if s.holdTime > 0 then some (s.now + s.holdTime) else none) ∧
    (s.fireKeepalive).tm.hold = s.tm.hold := by
  have hk := sendKeepalive_norm (h.setKeepalive none)
  rcases hst with h1 | h1 <;>
  · simp only [fireKeepalive, h1]
    split <;> (rw [hk]; simp [bumpSent, setConn, withConns, kaTicks, *])

/-- Event 9, ConnectRetryTimer_Expires, in OpenSent / OpenConfirm / Established: FSM error — NOTIFICATION
    (5, 0), close, Idle. -/
theorem C01_connect_retry_expires_in_session {s : Sess} {i : Nat} (h : Norm s i)
    (hst : s.st = .openSent ∨ s.st = .openConfirm ∨ s.st = .established) :
    (s.fireRetry).outs = s.outs ++ [.write i (notifWire 5 0 []), .lose i] ∧ (s.fireRetry).st = .idle := by
  have key := errorReaction_of_norm (h.setRetry none) 5 0 [] (by decide) (by decide) (by decide)
  have : s.fireRetry = ((s.setRetry none).sendNotification C.errFsm 0 []).errorClose := by
    rcases hst with h1 | h1 | h1 <;> simp [fireRetry, h1]
  rw [this]
  exact ⟨by simpa using key.outs, key.st⟩

/-- Event 9 in Connect: the timer is restarted and a new TCP connection is initiated, state stays Connect;
    in Idle the event is ignored. -/
theorem C01_connect_retry_expires_connect (s : Sess) (hp : s.proto = none) :
    (s.st = .connect → (s.fireRetry).outs = s.outs ++ [.connect s.conns.length] ∧ (s.fireRetry).st = .connect ∧
      (s.fireRetry).tm.retry = some (s.now + 3 * s.cfg.retryT)) ∧
    (s.st = .idle → (s.fireRetry).outs = s.outs ∧ (s.fireRetry).st = .idle) := by
  constructor
  · intro hst
    have e : (s.setRetry none).closeConn = s.setRetry none := by simp only [closeConn, setRetry, withTm, hp]
    simp only [fireRetry, hst, e]
    rw [connectTcp_eq _ (by simp [hst])]
    simp [retryDeadline, hst]
  · intro hst
    simp [fireRetry, hst]

theorem autoStart_idle {t : Sess} (hst : t.st = .idle) (ha : t.allowAuto = true) :
    (t.autoStart false).st = .connect ∧ (t.autoStart false).outs = t.outs ++ [.connect t.conns.length] ∧
    (t.autoStart false).tm.retry = some (t.now + 3 * t.cfg.retryT) := by
  simp only [autoStart, hst, ha, ↓reduceIte, Bool.false_eq_true]
  rw [connectTcp_eq _ (by simp)]
  simp [retryDeadline]

/-- Events 1 / 3 / 13 in Idle (ManualStart, AutomaticStart at boot, IdleHoldTimer_Expires with automatic start
    allowed): the ConnectRetryTimer is started, a TCP connection is initiated, state Connect. -/
theorem C01_start_from_idle (s : Sess) (hst : s.st = .idle) :
    ((s.manualStart).st = .connect ∧ (s.manualStart).outs = s.outs ++ [.connect s.conns.length, .retStart 1] ∧
      (s.manualStart).tm.retry = some (s.now + 3 * s.cfg.retryT) ∧ (s.manualStart).allowAuto = true) ∧
    (s.allowAuto = true →
      (s.fireIdleHold).st = .connect ∧ (s.fireIdleHold).outs = s.outs ++ [.connect s.conns.length] ∧
      (s.fireIdleHold).tm.retry = some (s.now + 3 * s.cfg.retryT) ∧
      (s.autoStart false).st = .connect ∧ (s.autoStart false).outs = s.outs ++ [.connect s.conns.length]) := by
  constructor
  · simp only [manualStart, hst]
    rw [connectTcp_eq _ (by simp)]
    simp [retryDeadline]
  · intro ha
    have k := autoStart_idle (t := s.setIdleHold none) hst ha
    have k' := autoStart_idle hst ha
    rw [fireIdleHold, if_pos hst]
    exact ⟨k.1, k.2.1, k.2.2, k'.1, k'.2.1⟩

/-- ManualStart is ignored while a session is up or being set up. -/
theorem C01_manual_start_ignored (s : Sess) (hst : s.st ≠ .idle) :
    (s.manualStart).st = s.st ∧ (s.manualStart).tm = s.tm ∧ (s.manualStart).conns = s.conns ∧
    ∃ v, (s.manualStart).outs = s.outs ++ [.retStart v] := by
  cases h : s.st <;> simp_all [manualStart]

/-- Event 2, ManualStop: from Established a Cease NOTIFICATION is sent first; in every state with a live
    tracked connection the connection is closed, all timers are stopped, automatic restart is forbidden
    and the state is Idle. -/
theorem C01_manual_stop {s : Sess} {i : Nat} (h : Norm s i) :
    (s.st = .established →
      (s.manualStop).outs = s.outs ++ [.write i (notifWire 6 0 []), .lose i, .retStop]) ∧
    (s.st ≠ .established → (s.manualStop).outs = s.outs ++ [.lose i, .retStop]) ∧
    (s.manualStop).st = .idle ∧ (s.manualStop).tm = {} ∧ (s.manualStop).allowAuto = false := by
  -- everything after the optional Cease: on a normal state `u` it closes the tracked connection and reports the stop
  have tail (u : Sess) (hu : Norm u i) : (((((((u.withTm {}).closeConn).withRetryCounter 0).withAllow false).setSt .idle).abortPending).emit
      .retStop).outs = u.outs ++ [.lose i, .retStop] := by
    rw [closeConn_norm (hu.withTm {})]
    simp [setPhase, setDisconnected, setConn]
  refine ⟨fun hst => ?_, fun hst => ?_, by simp [manualStop], by simp [manualStop], by simp [manualStop]⟩
  · rw [manualStop, if_pos hst, sendNotification_norm h _ _ _ (by decide) (by decide) (by decide), tail _ ((h.bumpSent i _).emit _)]
    simp [bumpSent, setConn]
  · rw [manualStop, if_neg hst, tail _ h]

theorem connectionMade_ok (t : Sess) (i : Nat) (w : Bytes) (hp : t.proto = some i)
    (hph : (t.conn i).phase = .connected) (hw : t.openWire = some w) :
    (t.connectionMade).st = .openSent ∧
    (t.connectionMade).outs = t.outs ++ [.write i w, .hSendOpen i t.cfg.localAs t.cfg.holdCfg (t.bgpId.getD 0)] ∧
    (t.connectionMade).proto = some i ∧
    (t.connectionMade).tm.hold = some (t.now + 3 * 240) ∧ (t.connectionMade).tm.retry = none := by
  have e := sendOpen_eq ((t.setRetry none).setIdleHold none) i w hp (decide_eq_true (Or.inl hph)) hw
  rw [connectionMade, e, if_pos rfl, setSt_of_ne _ (by decide)]
  cases t
  exact ⟨rfl, List.append_assoc _ [_] [_], hp, rfl, rfl⟩

/-- Events 16/17, the TCP connection is established (state Connect): the ConnectRetryTimer is stopped, our OPEN
    is sent on the new connection, which becomes the tracked one, the hold timer is set to the large value
    (4 minutes) and the state is OpenSent. -/
theorem C01_tcp_connected (s : Sess) (i : Nat) (w : Bytes) (hlt : i < s.conns.length)
    (hw : (((((s.setPhase i .connected).withProto (some i)).setSt .connect).withEstab (some i)).withBgpId
            (some (s.bgpId.getD s.cfg.localId))).openWire = some w) :
    (s.connOk i).st = .openSent ∧
    (s.connOk i).outs = s.outs ++ [.write i w, .hSendOpen i s.cfg.localAs s.cfg.holdCfg (s.bgpId.getD s.cfg.localId)] ∧
    (s.connOk i).proto = some i ∧
    (s.connOk i).tm.hold = some (s.now + 3 * 240) ∧ (s.connOk i).tm.retry = none := by
  rw [setSt_of_ne _ (by decide)] at hw
  rw [connOk_eq s i w hlt (by cases s; exact hw)]
  cases s
  exact ⟨rfl, List.append_assoc _ [_] [_], rfl, rfl, rfl⟩

/-- Event 18 while the attempt is pending (state Connect, nothing tracked yet): the ConnectRetryTimer is
    stopped, the state is Idle and, automatic start being allowed, the restart (idle-hold) timer runs. -/
theorem C01_tcp_fails_connect (s : Sess) (i : Nat) (hst : s.st = .connect) (hp : s.proto = none)
    (ha : s.allowAuto = true) (hpend : s.pending = some i) :
    (s.connFail i).st = .idle ∧ (s.connFail i).outs = s.outs ++ [.hConnFailed] ∧
    (s.connFail i).tm.retry = none ∧ (s.connFail i).tm.idleHold = some (s.now + 3 * s.cfg.idleHoldT) := by
  simp [connFail, hpend, connectionFailed, setPhase, setConn, hst, closeConn, hp, connectionClosed, dropEstab, ha,
    autoStart, idleDeadline, withPending]

theorem closeConn_closed {s : Sess} {i : Nat} (hp : s.proto = some i) (hph : (s.conn i).phase = .closed) :
    s.closeConn = s.withRetryCounter 0 := by
  simp [closeConn, hp, closeOn, hph]

/-- Event 18 in a session (the peer closes the tracked connection, or it breaks): no message; Idle; the restart
    (idle-hold) timer is running, automatic start being allowed. -/
theorem C01_tcp_fails_in_session {s : Sess} {i : Nat} (h : Norm s i) (he : s.estab = some i) (ha : s.allowAuto = true)
    (hst : s.st = .openSent ∨ s.st = .openConfirm ∨ s.st = .established) :
    (s.connLost i).st = .idle ∧ (s.connLost i).outs = s.outs ++ [.hConnLost i] ∧
    (s.connLost i).tm.idleHold = some (s.now + 3 * s.cfg.idleHoldT) := by
  have hph : (((s.setPhase i .closed).emit (.hConnLost i)).conn i).phase = .closed := by
    show ((s.setPhase i .closed).conn i).phase = .closed
    simp [setPhase, conn_setConn, h.lt]
  have hp : ((s.setPhase i .closed).emit (.hConnLost i)).proto = some i := h.proto
  simp only [connLost, h.nd, Bool.false_eq_true, ↓reduceIte]
  rcases hst with h1 | h1
  · have hst' : ((s.setPhase i .closed).emit (.hConnLost i)).st = .openSent := h1
    simp only [connectionFailed, hst']
    rw [closeConn_closed hp hph]
    simp [connectionClosed, dropEstab, setPhase, setConn, he, ha, autoStart, idleDeadline, h.proto]
  · have e : ((s.setPhase i .closed).emit (.hConnLost i)).connectionFailed =
        ((s.setPhase i .closed).emit (.hConnLost i)).errorClose := by
      rcases h1 with h1 | h1 <;> simp only [connectionFailed, st_emit, st_setPhase, h1]
    rw [e, errorClose, closeConn_closed (by exact hp) (by exact hph)]
    simp [setPhase, setConn, idleDeadline]

end

theorem ErrorReaction.of_bumpRecv {s s' : Sess} {i j e sub : Nat} {d : Bytes} {g : Stats → Stats}
    (h : ErrorReaction (s.bumpRecv j g) s' i e sub d) : ErrorReaction s s' i e sub d :=
  ⟨h.outs, h.st, h.tm⟩

theorem SilentClose.of_bumpRecv {s s' : Sess} {i j : Nat} {g : Stats → Stats}
    (h : SilentClose (s.bumpRecv j g) s' i) : SilentClose s s' i := ⟨h.outs, h.st, h.tm⟩

theorem openReceived_ok {s : Sess} (i : Nat) {body : Bytes} {m : OpenMsg} (hp : parseOpen body = .ok m)
    (has : m.asn = s.cfg.remoteAs) : s.openReceived i body = (s.bumpRecv i incOpens).openAccepted i m := by
  simp [openReceived, hp, has]

/-- `_open_received` once the OPEN has passed its own checks: the peer's capabilities are recorded (and 4-octet AS
    decoding switched on) first; the state `pre` so reached looks to the FSM like the one before, and in it either the
    hold time is refused or `FSM.open_received` runs with the negotiated hold time.  (`openAccepted_elim` as an
    equation: `pre` hides which of the two capability updates was made, so that the users need not split on it.) -/
theorem openAccepted_pre (t : Sess) (i : Nat) (m : OpenMsg) :
    ∃ pre : Sess, (Norm t i → Norm pre i) ∧ pre.st = t.st ∧ pre.outs = t.outs ∧ pre.now = t.now ∧ pre.cfg = t.cfg ∧
      t.openAccepted i m =
        if m.holdTime ≠ 0 ∧ m.holdTime < 3 then (pre.openMessageError C.openBadHold, false)
        else (((pre.withHoldTime (min t.cfg.holdCfg m.holdTime)).fsmOpenReceived).emit (.hOpen i m), true) := by
  refine ⟨if m.caps.fourBytesAs ∧ (t.cfg.localAs > 65535 ∨ t.localCaps.fourBytesAs) then (t.withRemote m.caps).setAsn4 i
    else t.withRemote m.caps, fun h => ?_, ?_, ?_, ?_, ?_, rfl⟩
  · split
    · exact (h.withRemote _).setConn i rfl rfl
    · exact h.withRemote _
  all_goals split <;> rfl

section
attribute [local simp] emit withNow withSt withTm withAllow withRetryCounter withHoldTime withProto withEstab
  withLocalCaps withRemote withBgpId withOuts setRetry setHold setKeepalive setIdleHold incRetryCounter setSt
  restartHold withConns C.errFsm C.errHold C.errCease C.errOpen C.errHdr

/-- Event 19 in OpenSent, a valid OPEN (version 4, the configured peer AS, hold time not 1 or 2): our KEEPALIVE is
    sent, the session hold time becomes min(configured, proposed), the hold and keepalive timers are started
    iff that is not zero, the OPEN is reported to the application once, and the state is OpenConfirm. -/
theorem C01_open_accepted {s : Sess} {i : Nat} (h : Norm s i) (hst : s.st = .openSent) (body : Bytes) (m : OpenMsg)
    (hparse : parseOpen body = .ok m) (has : m.asn = s.cfg.remoteAs) (hh : ¬ (m.holdTime ≠ 0 ∧ m.holdTime < 3)) :
    (dispatch U s i 1 body).2 = true ∧
    (dispatch U s i 1 body).1.st = .openConfirm ∧
    (dispatch U s i 1 body).1.holdTime = min s.cfg.holdCfg m.holdTime ∧
    (dispatch U s i 1 body).1.outs = s.outs ++ [.write i constructKeepalive, .hOpen i m] ∧
    (dispatch U s i 1 body).1.tm.retry = none ∧
    (if min s.cfg.holdCfg m.holdTime > 0 then
       (dispatch U s i 1 body).1.tm.keepalive = some (s.now + min s.cfg.holdCfg m.holdTime) ∧
       (dispatch U s i 1 body).1.tm.hold = some (s.now + 3 * min s.cfg.holdCfg m.holdTime)
     else (dispatch U s i 1 body).1.tm.keepalive = none ∧ (dispatch U s i 1 body).1.tm.hold = none) := by
  obtain ⟨pre, hN, e1, (e2 : pre.outs = s.outs), (e3 : pre.now = s.now), -, e4⟩ := openAccepted_pre (s.bumpRecv i incOpens) i m
  rw [dispatch_open, openReceived_ok i hparse has, e4, if_neg hh, show (s.bumpRecv i incOpens).cfg = s.cfg from rfl]
  -- `FSM.open_received` runs in OpenSent on a normal state that has the outputs and the clock of `s`
  have hk := sendKeepalive_norm (((hN (h.bumpRecv i incOpens)).withHoldTime (min s.cfg.holdCfg m.holdTime)).setRetry none)
  have hu : (pre.withHoldTime (min s.cfg.holdCfg m.holdTime)).st = .openSent := e1.trans hst
  simp only [fsmOpenReceived, hu, holdTime_withHoldTime]
  split <;> (rw [hk]; simp [bumpSent, setConn, kaTicks, holdTicks, *])

/-- Events 21 / 22 on an OPEN, in every state with a live tracked connection: a malformed OPEN is answered with
    NOTIFICATION (1, sub) resp. (2, sub) as the decoder classified it; a wrong peer AS with (2, 2); an
    unacceptable hold time (1 or 2) with (2, 6); then the connection is closed and the state is Idle. -/
theorem C01_open_rejected {s : Sess} {i : Nat} (h : Norm s i) (body : Bytes) :
    (∀ sub, parseOpen body = .error (.hdr sub) → sub < 256 →
      ErrorReaction s (dispatch U s i 1 body).1 i 1 sub [] ∧ (dispatch U s i 1 body).2 = false) ∧
    (∀ sub, parseOpen body = .error (.open sub) → sub < 256 →
      ErrorReaction s (dispatch U s i 1 body).1 i 2 sub [] ∧ (dispatch U s i 1 body).2 = false) ∧
    (∀ m, parseOpen body = .ok m → m.asn ≠ s.cfg.remoteAs →
      ErrorReaction s (dispatch U s i 1 body).1 i 2 2 [] ∧ (dispatch U s i 1 body).2 = false) ∧
    (∀ m, parseOpen body = .ok m → m.asn = s.cfg.remoteAs → (m.holdTime = 1 ∨ m.holdTime = 2) →
      ErrorReaction s (dispatch U s i 1 body).1 i 2 6 [] ∧ (dispatch U s i 1 body).2 = false) := by
  have hb := h.bumpRecv i incOpens
  rw [dispatch_open]
  refine ⟨?_, ?_, ?_, ?_⟩
  · intro sub hp hs
    simp only [openReceived, hp]
    exact ⟨(errorReaction_of_norm hb 1 sub [] (by decide) hs (by decide)).of_bumpRecv, trivial⟩
  · intro sub hp hs
    simp only [openReceived, hp]
    exact ⟨(errorReaction_of_norm hb 2 sub [] (by decide) hs (by decide)).of_bumpRecv, trivial⟩
  · intro m hp hne
    simp only [openReceived, hp, if_pos (Ne.symm hne)]
    exact ⟨(errorReaction_of_norm hb 2 2 [] (by decide) (by decide) (by decide)).of_bumpRecv, trivial⟩
  · intro m hp has hh
    obtain ⟨pre, hN, -, e2, e3, e4, e⟩ := openAccepted_pre (s.bumpRecv i incOpens) i m
    rw [openReceived_ok i hp has, e, if_pos (by omega)]
    have k := errorReaction_of_norm (hN hb) 2 6 [] (by decide) (by decide) (by decide)
    have hd : pre.idleDeadline = s.idleDeadline := by unfold idleDeadline; rw [e3, e4]; rfl
    exact ⟨⟨k.outs.trans (congrArg (· ++ _) e2), k.st, k.tm.trans (by rw [hd])⟩, rfl⟩

/-- Event 19 outside OpenSent (OpenConfirm, Established): FSM error — NOTIFICATION (5, 0), close, Idle. -/
theorem C01_open_unexpected {s : Sess} {i : Nat} (h : Norm s i) (hst : s.st = .openConfirm ∨ s.st = .established)
    (body : Bytes) (m : OpenMsg) (hparse : parseOpen body = .ok m) (has : m.asn = s.cfg.remoteAs)
    (hh : ¬ (m.holdTime ≠ 0 ∧ m.holdTime < 3)) :
    ∃ s' : Sess, (dispatch U s i 1 body).1 = s'.emit (.hOpen i m) ∧
      s'.outs = s.outs ++ [.write i (notifWire 5 0 []), .lose i] ∧ s'.st = .idle := by
  obtain ⟨pre, hN, e1, e2, -, -, e⟩ := openAccepted_pre (s.bumpRecv i incOpens) i m
  have hu : ∀ v, (pre.withHoldTime v).fsmOpenReceived = ((pre.withHoldTime v).sendNotification C.errFsm 0 []).errorClose := by
    intro v
    unfold fsmOpenReceived
    rcases hst with h1 | h1 <;> rw [st_withHoldTime, e1, st_bumpRecv, h1]
  rw [dispatch_open, openReceived_ok i hparse has, e, if_neg hh, hu]
  have k := errorReaction_of_norm ((hN (h.bumpRecv i _)).withHoldTime (min (s.bumpRecv i incOpens).cfg.holdCfg m.holdTime))
    5 0 [] (by decide) (by decide) (by decide)
  exact ⟨_, rfl, k.outs.trans (congrArg (· ++ _) e2), k.st⟩

/-- Event 26, KEEPALIVE: OpenConfirm → Established (reported to the application), the hold timer restarted iff the
    hold time is not zero; Established → hold timer restarted, nothing else; OpenSent → FSM error (5, 0), Idle. -/
theorem C01_keepalive_msg {s : Sess} {i : Nat} (h : Norm s i) :
    (s.st = .openConfirm →
      (dispatch U s i 4 []).1.st = .established ∧
      (dispatch U s i 4 []).1.outs = s.outs ++ [.hKeepalive i, .hEstablished] ∧
      (dispatch U s i 4 []).1.tm.hold = (if s.holdTime ≠ 0 then some (s.now + 3 * s.holdTime) else s.tm.hold) ∧
      (dispatch U s i 4 []).1.tm.keepalive = s.tm.keepalive) ∧
    (s.st = .established →
      (dispatch U s i 4 []).1.st = .established ∧ (dispatch U s i 4 []).1.outs = s.outs ++ [.hKeepalive i] ∧
      (dispatch U s i 4 []).1.tm.hold = (if s.holdTime ≠ 0 then some (s.now + 3 * s.holdTime) else s.tm.hold) ∧
      (dispatch U s i 4 []).1.tm.keepalive = s.tm.keepalive) ∧
    (s.st = .openSent →
      (dispatch U s i 4 []).1.outs = s.outs ++ [.hKeepalive i, .write i (notifWire 5 0 []), .lose i] ∧
      (dispatch U s i 4 []).1.st = .idle) := by
  rw [dispatch_keepalive, if_pos rfl]
  refine ⟨?_, ?_, ?_⟩
  · intro hst
    simp only [fsmKeepaliveReceived, st_emit, st_bumpRecv, hst]
    by_cases hh : s.holdTime = 0 <;> simp [Sess.restartHold, bumpRecv, setConn, holdTicks, hst, hh]
  · intro hst
    simp only [fsmKeepaliveReceived, st_emit, st_bumpRecv, hst]
    by_cases hh : s.holdTime = 0 <;> simp [Sess.restartHold, bumpRecv, setConn, holdTicks, hst, hh]
  · intro hst
    simp only [fsmKeepaliveReceived, st_emit, st_bumpRecv, hst]
    have key := errorReaction_of_norm ((h.bumpRecv i incKeepalives).emit (.hKeepalive i)) 5 0 [] (by decide) (by decide)
      (by decide)
    exact ⟨by simpa [bumpRecv, setConn] using key.outs, key.st⟩

/-- a KEEPALIVE with a body is a header error: NOTIFICATION (1, 2), close, Idle -/
theorem C01_keepalive_bad_length {s : Sess} {i : Nat} (h : Norm s i) (body : Bytes) (hb : body ≠ []) :
    (dispatch U s i 4 body).1.outs = s.outs ++ [.hKeepalive i, .write i (notifWire 1 2 []), .lose i] ∧
    (dispatch U s i 4 body).1.st = .idle ∧ (dispatch U s i 4 body).2 = false := by
  rw [dispatch_keepalive, if_neg hb]
  have hn := (h.bumpRecv i incKeepalives).emit (.hKeepalive i)
  have key := errorReaction_of_norm hn 1 2 [] (by decide) (by decide) (by decide)
  exact ⟨by simpa [bumpRecv, setConn, headerError, C.hdrBadLen] using key.outs, key.st, rfl⟩

/-- Event 27, UPDATE: in Established the session stays up whatever the body is (C10) and the hold timer is
    restarted iff the hold time is not zero; in OpenSent and OpenConfirm it is an FSM error (5, 0) → Idle. -/
theorem C01_update_msg {s : Sess} {i : Nat} (h : Norm s i) (body : Bytes) (hc : U (s.conn i).asn4 body ≠ .unmodelled) :
    (s.st = .established →
      (dispatch U s i 2 body).1.st = .established ∧
      (dispatch U s i 2 body).1.tm.keepalive = s.tm.keepalive ∧
      (U (s.conn i).asn4 body ≠ .raises →
        (dispatch U s i 2 body).1.tm.hold = (if s.holdTime ≠ 0 then some (s.now + 3 * s.holdTime) else s.tm.hold))) ∧
    ((s.st = .openSent ∨ s.st = .openConfirm) → U (s.conn i).asn4 body ≠ .raises →
      (dispatch U s i 2 body).1.st = .idle ∧
      ∃ rep, (dispatch U s i 2 body).1.outs = s.outs ++ [rep, .write i (notifWire 5 0 []), .lose i]) := by
  rw [dispatch_update]
  constructor
  · intro hst
    cases hu : U (s.conn i).asn4 body with
    | raises => simp [bumpRecv, setConn, hst]
    | unmodelled => exact absurd hu hc
    | malformed | good =>
      simp only [fsmUpdateReceived, st_emit, st_bumpRecv, hst]
      by_cases hh : s.holdTime = 0 <;> simp [Sess.restartHold, bumpRecv, setConn, holdTicks, hst, hh]
  · intro hst hr
    have key (o : Out) : (((s.bumpRecv i incUpdates).emit o).fsmUpdateReceived).st = .idle ∧
        (((s.bumpRecv i incUpdates).emit o).fsmUpdateReceived).outs = s.outs ++ [o, .write i (notifWire 5 0 []), .lose i] := by
      have k := errorReaction_of_norm ((h.bumpRecv i incUpdates).emit o) 5 0 [] (by decide) (by decide) (by decide)
      have e : ((s.bumpRecv i incUpdates).emit o).fsmUpdateReceived =
          (((s.bumpRecv i incUpdates).emit o).sendNotification C.errFsm 0 []).errorClose := by
        rcases hst with h1 | h1 <;> simp only [fsmUpdateReceived, st_emit, st_bumpRecv, h1]
      rw [e]
      exact ⟨k.st, by simpa [bumpRecv, setConn] using k.outs⟩
    cases hu : U (s.conn i).asn4 body with
    | raises => exact absurd hu hr
    | unmodelled => exact absurd hu hc
    | malformed | good => exact ⟨(key _).1, _, (key _).2⟩

theorem outs_fsmNotificationReceived_norm {u : Sess} {i : Nat} (hn : Norm u i)
    (hst : u.st = .openSent ∨ u.st = .openConfirm ∨ u.st = .established) (e sub : Nat) :
    (u.fsmNotificationReceived e sub).outs = u.outs ++ [.lose i] := by
  have hv : (((((u.setRetry none).setHold none).setKeepalive none).closeConn).setSt .idle).outs = u.outs ++ [.lose i] := by
    rw [setSt_of_ne _ (by decide)]
    exact outs_closeConn_norm (((hn.setRetry none).setHold none).setKeepalive none)
  have he := outs_errorClose_norm hn
  unfold fsmNotificationReceived
  split
  · rcases hst with h1 | h1 | h1 <;> rw [h1] <;> assumption
  · rw [if_pos (by rcases hst with h1 | h1 | h1 <;> rw [h1] <;> decide)]
    exact he

/-- Events 24 / 25, NOTIFICATION received in a session: no NOTIFICATION is sent back, the connection is closed,
    the state is Idle.  (A version-error NOTIFICATION in OpenSent / OpenConfirm stops the
    connect-retry, hold and keepalive timers and does not arm the restart timer; every other case is `_error_close`,
    which arms it.) -/
theorem C01_notification_msg {s : Sess} {i : Nat} (h : Norm s i) (e sub : UInt8) (d : Bytes)
    (hst : s.st = .openSent ∨ s.st = .openConfirm ∨ s.st = .established) :
    (dispatch U s i 3 (e :: sub :: d)).1.st = .idle ∧
    (dispatch U s i 3 (e :: sub :: d)).1.outs = s.outs ++ [.hNotification i d, .lose i] ∧
    (dispatch U s i 3 (e :: sub :: d)).2 = true := by
  have hd : dispatch U s i 3 (e :: sub :: d) =
      (((s.bumpRecv i incNotifications).emit (.hNotification i d)).fsmNotificationReceived e.toNat sub.toNat, true) := rfl
  rw [hd]
  refine ⟨st_fsmNotificationReceived .., ?_, rfl⟩
  rw [outs_fsmNotificationReceived_norm ((h.bumpRecv i incNotifications).emit (.hNotification i d)) hst]
  exact List.append_assoc s.outs [_] [_]

/-- ROUTE-REFRESH (RFC 2918, both type codes) is reported to the application and is not an FSM event. -/
theorem C01_route_refresh_msg (s : Sess) (i : Nat) (ty : Nat) (hty : ty = 5 ∨ ty = 128) (a b r sf : UInt8) :
    (dispatch U s i ty [a, b, r, sf]).1.st = s.st ∧ (dispatch U s i ty [a, b, r, sf]).1.tm = s.tm ∧
    (dispatch U s i ty [a, b, r, sf]).1.outs = s.outs ++ [.hRouteRefresh i (a.toNat * 256 + b.toNat) r.toNat sf.toNat ty] := by
  rw [dispatch_routeRefresh U s i _ hty]
  exact ⟨rfl, rfl, rfl⟩

end

theorem st_dispatch (s : Sess) (i ty : Nat) (body : Bytes) :
    (dispatch U s i ty body).1.st = s.st ∨ (dispatch U s i ty body).1.st = .idle ∨
    ((dispatch U s i ty body).1.st = .openConfirm ∧ s.st = .openSent ∧ ty = 1 ∧
      ∃ m, parseOpen body = .ok m ∧ m.asn = s.cfg.remoteAs ∧ ¬ (m.holdTime ≠ 0 ∧ m.holdTime < 3)) ∨
    ((dispatch U s i ty body).1.st = .established ∧ s.st = .openConfirm ∧ ty = 4 ∧ body = []) := by
  rcases msgType_cases ty with rfl | rfl | rfl | rfl | h | h
  · rw [dispatch_open]
    unfold openReceived
    cases hp : parseOpen body with
    | error e =>
      cases e with
      | hdr sub => exact Or.inr (Or.inl (st_headerError ..))
      | «open» sub => exact Or.inr (Or.inl (st_openMessageError ..))
      | other => exact Or.inl rfl
    | ok m =>
      dsimp only
      split
      · exact Or.inr (Or.inl (st_openMessageError ..))
      · rename_i has
        obtain ⟨pre, -, e1, -, -, -, e⟩ := openAccepted_pre (s.bumpRecv i incOpens) i m
        rw [e]
        split
        · exact Or.inr (Or.inl (st_openMessageError ..))
        · rename_i hh
          have hst : ((pre.withHoldTime (min (s.bumpRecv i incOpens).cfg.holdCfg m.holdTime)).fsmOpenReceived.emit
              (.hOpen i m)).st = if s.st = .openSent then .openConfirm else .idle := by
            rw [st_emit, st_fsmOpenReceived, st_withHoldTime, e1, st_bumpRecv]
          rw [hst]
          split
          · rename_i ho
            exact Or.inr (Or.inr (Or.inl ⟨rfl, ho, rfl, m, rfl, (Classical.not_not.mp has).symm, hh⟩))
          · exact Or.inr (Or.inl rfl)
  · rw [dispatch_update]
    split
    · exact Or.inl rfl
    · exact Or.inl rfl
    all_goals
      rw [st_fsmUpdateReceived, st_emit, st_bumpRecv]
      split
      · rename_i he; exact Or.inl he.symm
      · exact Or.inr (Or.inl rfl)
  · rw [dispatch_notification]
    split
    · exact Or.inl rfl
    · exact Or.inr (Or.inl (st_fsmNotificationReceived ..))
  · rw [dispatch_keepalive]
    split
    · rename_i hb
      rw [st_fsmKeepaliveReceived, st_emit, st_bumpRecv]
      split
      · rename_i he
        rcases he with he | he
        · exact Or.inr (Or.inr (Or.inr ⟨rfl, he, rfl, hb⟩))
        · exact Or.inl he.symm
      · exact Or.inr (Or.inl rfl)
    · exact Or.inr (Or.inl (st_headerError ..))
  · rw [dispatch_routeRefresh U s i body h]
    split <;> exact Or.inl rfl
  · rw [dispatch_unknown U s i body h]
    exact Or.inr (Or.inl (st_headerError ..))

/-- Established is entered by no message other than a KEEPALIVE received in OpenConfirm. -/
theorem C01_established_only_via_keepalive (s : Sess) (i ty : Nat) (body : Bytes)
    (h : (dispatch U s i ty body).1.st = .established) :
    s.st = .established ∨ (s.st = .openConfirm ∧ ty = 4 ∧ body = []) := by
  rcases st_dispatch U s i ty body with e | e | ⟨e, -⟩ | ⟨-, h1, h2, h3⟩
  · exact Or.inl (e ▸ h)
  · exact absurd (e ▸ h) (by decide)
  · exact absurd (e ▸ h) (by decide)
  · exact Or.inr ⟨h1, h2, h3⟩

/-- OpenConfirm is entered by no message other than an OPEN received in OpenSent that passed every check
    (decodable, version 4, the configured peer AS, hold time not 1 or 2). -/
theorem C01_openconfirm_only_via_open (s : Sess) (i ty : Nat) (body : Bytes)
    (h : (dispatch U s i ty body).1.st = .openConfirm) :
    s.st = .openConfirm ∨
    (s.st = .openSent ∧ ty = 1 ∧ ∃ m, parseOpen body = .ok m ∧ m.asn = s.cfg.remoteAs ∧ ¬ (m.holdTime ≠ 0 ∧ m.holdTime < 3)) := by
  rcases st_dispatch U s i ty body with e | e | ⟨-, h1⟩ | ⟨e, -⟩
  · exact Or.inl (e ▸ h)
  · exact absurd (e ▸ h) (by decide)
  · exact Or.inr h1
  · exact absurd (e ▸ h) (by decide)

end Yabgp

#print axioms Yabgp.C01_hold_timer_expires
#print axioms Yabgp.C01_keepalive_timer_expires
#print axioms Yabgp.C01_connect_retry_expires_in_session
#print axioms Yabgp.C01_connect_retry_expires_connect
#print axioms Yabgp.C01_start_from_idle
#print axioms Yabgp.C01_manual_start_ignored
#print axioms Yabgp.C01_manual_stop
#print axioms Yabgp.C01_tcp_connected
#print axioms Yabgp.C01_tcp_fails_connect
#print axioms Yabgp.C01_tcp_fails_in_session
#print axioms Yabgp.C01_open_accepted
#print axioms Yabgp.C01_open_rejected
#print axioms Yabgp.C01_open_unexpected
#print axioms Yabgp.C01_keepalive_msg
#print axioms Yabgp.C01_keepalive_bad_length
#print axioms Yabgp.C01_update_msg
#print axioms Yabgp.C01_notification_msg
#print axioms Yabgp.C01_route_refresh_msg
#print axioms Yabgp.C01_established_only_via_keepalive
#print axioms Yabgp.C01_openconfirm_only_via_open

/-! ### non-vacuity: the hypotheses of the theorems above are met by reachable states -/
namespace Yabgp
open Sess

def exCfg : Cfg :=
  { localAs := 65001, remoteAs := 65002, holdCfg := 180, retryT := 30, idleHoldT := 30, localId := 167772161,
    caps0 := { afiSafi := some [(1, 1)], routeRefresh := true, fourBytesAs := true } }

/-- peer OPEN: version 4, AS 65002, hold 90, id 10.0.0.2, no optional parameters (29-octet message) -/
def exOpen : Bytes := marker ++ [0, 29, 1, 4, 0xfd, 0xea, 0, 90, 10, 0, 0, 2, 0]
def exKeepalive : Bytes := marker ++ [0, 19, 4]
def exU : Bool → Bytes → UpdClass := fun _ _ => .malformed

def exOpenSent : World := run exU (bootWorld exCfg) [.boot, .connOk 0]
def exOpenConfirm : World := run exU (bootWorld exCfg) [.boot, .connOk 0, .chunk 0 exOpen]
def exEstablished : World := run exU (bootWorld exCfg) [.boot, .connOk 0, .chunk 0 exOpen, .chunk 0 exKeepalive]

example : exOpenSent.sess.st = .openSent ∧ exOpenSent.sess.proto = some 0 ∧
    (exOpenSent.sess.conn 0).phase = .connected ∧ (exOpenSent.sess.conn 0).disconnected = false ∧
    0 < exOpenSent.sess.conns.length := by decide
example : exOpenConfirm.sess.st = .openConfirm ∧ exOpenConfirm.sess.holdTime = 90 ∧
    exOpenConfirm.sess.tm.hold = some 270 ∧ exOpenConfirm.sess.tm.keepalive = some 90 := by decide
example : exEstablished.sess.st = .established ∧ exEstablished.sess.proto = some 0 ∧
    (exEstablished.sess.conn 0).phase = .connected ∧ (exEstablished.sess.conn 0).disconnected = false := by decide

end Yabgp
