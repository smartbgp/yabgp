/-
  C13 — operator stop is final until operator start.
  `C13_stop_state`: whatever the state, a manual stop leaves Idle, all timers stopped, automatic start forbidden
  (`C01_manual_stop`, Props/C01.lean, adds Cease iff Established).  `C13_quiet_step` / `C13_quiet`: from the stopped
  situation (`Stopped`, Lemmas/Stopped.lean) no event but an operator start makes the agent write a message or start a
  connection attempt.  `C13_start`: start from the stopped situation connects at once and re-enables automatic recovery.
  `C13_stop_reaches_stopped`: in EVERY reachable state a manual stop leads to the stopped situation - the tracked
  connection is closed and the attempt in flight is given up - hence `C13_final`: the quiet period holds after a manual
  stop issued in any reachable state, for every continuation.
-/
import Yabgp.Lemmas.Stopped
import Yabgp.Props.C12

namespace Yabgp
open Sess

variable (U : Bool → Bytes → UpdClass)

theorem C13_stop_state (s : Sess) :
    (s.manualStop).st = .idle ∧ (s.manualStop).tm = {} ∧ (s.manualStop).allowAuto = false := by
  -- state and flag are read off the control skeleton
  have h1 : (core s.manualStop).st = .idle := by rw [core_manualStop]; exact Core.abortPending_st _
  have h2 : (core s.manualStop).allow = false := by rw [core_manualStop]; exact Core.abortPending_allow _
  have h3 : s.manualStop.tm = {} := by
    simp only [manualStop, tm_emit, tm_abortPending, tm_setSt, tm_withAllow, tm_withRetryCounter, tm_closeConn, tm_withTm]
  -- with the stopped state a variable, `(core t).st` is `t.st` at once
  generalize s.manualStop = t at h1 h2 h3
  exact ⟨h1, h3, h2⟩

/-- After a manual stop, as long as the operator does not start the peer again, NO event the environment can
    produce — peer data, connection loss, time passing, timers, a repeated stop, the boot call — makes the agent
    write a BGP message or start a connection attempt, and the stopped situation persists.
    (Precondition `Stopped`: no attempt pending and no connection open; a manual stop in any reachable state
    establishes it, `C13_stop_reaches_stopped`.) -/
theorem C13_quiet_step (w : World) (e : Ev) (hs : Stopped w.sess) (hne : e ≠ .manualStart)
    (hen : enabled w.sess e = true) :
    Stopped (step U w e).sess ∧ ∀ o ∈ (step U w e).sess.outs, isNoise o = false := by
  have h0 := hs.withOuts []
  -- a connector or transport the reactor could still report on would be connecting or connected
  have hph : ∀ c, c < w.sess.conns.length → (w.sess.conn c).phase ≠ .connecting ∧ (w.sess.conn c).phase ≠ .connected :=
    fun c hc => by rcases hs.quiet c hc with h | h <;> rw [h] <;> exact ⟨fun h => (nomatch h), fun h => (nomatch h)⟩
  cases e with
  | manualStart => exact absurd rfl hne
  | boot =>
    have e : (step U w .boot).sess = w.sess.withOuts [] := by
      show (w.sess.withOuts []).autoStart false = _
      unfold autoStart
      rw [if_pos h0.st, if_neg Bool.false_ne_true, if_neg (by rw [h0.allow]; exact Bool.false_ne_true)]
    rw [e]; exact ⟨h0, fun o ho => by cases ho⟩
  | manualStop => exact manualStop_of_stopped h0 rfl
  | connOk c | connFail c =>
    simp only [enabled, decide_eq_true_eq] at hen
    exact absurd hen.2 (hph c hen.1).1
  | chunk c d =>
    simp only [enabled, decide_eq_true_eq] at hen
    exact absurd hen.2 (hph c hen.1).2
  | lost c =>
    obtain ⟨h1, h2⟩ := h0.connLost c
    exact ⟨h1, fun o ho => by rw [show (step U w (.lost c)).sess.outs = _ from h2] at ho; cases List.mem_singleton.1 ho; rfl⟩
  | advance dt => exact ⟨⟨hs.allow, hs.st, hs.tm, hs.quiet⟩, fun o ho => by cases ho⟩
  | fire t =>
    simp only [enabled] at hen
    cases t <;> simp [timerOf, hs.tm] at hen

/-- the quiet period, for every continuation: along any sequence of environment events without a manual start the
    agent never writes a BGP message and never starts a connection attempt, and it is still stopped at the end -/
theorem C13_quiet (evs : List Ev) : ∀ (w : World), Stopped w.sess →
    (∀ e ∈ evs, e ≠ .manualStart) → EnabledRun U w evs →
    Stopped (run U w evs).sess ∧ ∀ o ∈ runOuts U w evs, isNoise o = false := by
  induction evs with
  | nil => intro w hs _ _; exact ⟨hs, fun o ho => by simp [runOuts] at ho⟩
  | cons e r ih =>
    intro w hs hne hen
    have h1 := C13_quiet_step U w e hs (hne e (by simp)) hen.1
    have ih' := ih (step U w e) h1.1 (fun e' he' => hne e' (by simp [he'])) hen.2
    refine ⟨ih'.1, ?_⟩
    intro o ho
    simp only [runOuts] at ho
    rcases List.mem_append.mp ho with h | h
    · exact h1.2 o h
    · exact ih'.2 o h

theorem C13_start (s : Sess) (hs : Stopped s) :
    (s.manualStart).st = .connect ∧ (s.manualStart).allowAuto = true ∧
    (s.manualStart).outs = s.outs ++ [.connect s.conns.length, .retStart 1] :=
  let h := (C01_start_from_idle s hs.st).1
  ⟨h.1, h.2.2.2, h.2.1⟩

/-- the attempt pending at manual stop is given up by the stop (an agent that adopted it when it succeeded would
    break the quiet period: key `KF-pending-attempt-adopted-after-stop` of harness/oracles.py): after `boot, stop` the
    connector is closed and its success is not an event the environment can produce any more -/
theorem C13_pending_attempt_aborted :
    (run exU (bootWorld exCfg) [.boot, .manualStop]).sess.allowAuto = false ∧
    (run exU (bootWorld exCfg) [.boot, .manualStop]).sess.st = .idle ∧
    ((run exU (bootWorld exCfg) [.boot, .manualStop]).sess.conn 0).phase = .closed ∧
    enabled (run exU (bootWorld exCfg) [.boot, .manualStop]).sess (.connOk 0) = false := by
  decide

theorem Core.quiet_manualStop {c : Core} (h : Core.One c) (hp : Core.Pend c) :
    ∀ j, j < c.manualStop.conns.length → (c.manualStop.conn j).1 = .closing ∨ (c.manualStop.conn j).1 = .closed :=
  fun j hj => Core.closed_of_not_live (Core.noLive_manualStop h hp j hj)

theorem stopped_manualStop {s : Sess} (h : Core.One (core s)) (hp : Core.Pend (core s)) : Stopped s.manualStop := by
  have hst := C13_stop_state s
  refine ⟨hst.2.2, hst.1, hst.2.1, fun j hj => ?_⟩
  have hq := Core.quiet_manualStop h hp j (by rw [← core_manualStop, len_core]; exact hj)
  rwa [← core_manualStop, core_conn] at hq

/-- **Manual stop in any reachable state leads to the stopped situation**: Idle, no timer, automatic start forbidden,
    and every connection closed or being closed - the one in flight included. -/
theorem C13_stop_reaches_stopped (cfg : Cfg) (e0 : Ev) (he0 : e0 = .boot ∨ e0 = .manualStart) (evs : List Ev)
    (hen : EnabledRun U (step U (bootWorld cfg) e0) evs) :
    Stopped (step U (run U (bootWorld cfg) (e0 :: evs)) .manualStop).sess :=
  have hk := skel_of_run U cfg e0 he0 evs hen
  stopped_manualStop (s := (run U (bootWorld cfg) (e0 :: evs)).sess.withOuts []) hk.one hk.pend

/-- **The quiet period, in full**: stop in any reachable state, then any continuation the environment can produce
    without an operator start: no BGP message is written, no connection attempt is made, and the peer stays stopped. -/
theorem C13_final (cfg : Cfg) (e0 : Ev) (he0 : e0 = .boot ∨ e0 = .manualStart) (evs cont : List Ev)
    (hen : EnabledRun U (step U (bootWorld cfg) e0) evs)
    (hne : ∀ e ∈ cont, e ≠ .manualStart)
    (hcont : EnabledRun U (step U (run U (bootWorld cfg) (e0 :: evs)) .manualStop) cont) :
    Stopped (run U (step U (run U (bootWorld cfg) (e0 :: evs)) .manualStop) cont).sess ∧
    ∀ o ∈ runOuts U (step U (run U (bootWorld cfg) (e0 :: evs)) .manualStop) cont, isNoise o = false :=
  C13_quiet U cont _ (C13_stop_reaches_stopped U cfg e0 he0 evs hen) hne hcont

/-- non-vacuity: stop while the first attempt is in flight, then the peer "accepts": not an event any more -/
example : Stopped (step exU (run exU (bootWorld exCfg) [.boot]) .manualStop).sess :=
  C13_stop_reaches_stopped exU exCfg .boot (Or.inl rfl) [] trivial

end Yabgp

#print axioms Yabgp.C13_stop_state
#print axioms Yabgp.C13_quiet_step
#print axioms Yabgp.C13_quiet
#print axioms Yabgp.C13_start
#print axioms Yabgp.C13_pending_attempt_aborted
#print axioms Yabgp.C13_stop_reaches_stopped
#print axioms Yabgp.C13_final
