/-
  C11, PMSI tunnel attribute: what `PMSITunnel.construct` (Model/Construct/SrtePmsi.lean) writes, the decoder of
  Model/Pmsi.lean reads back - for the addresses whose family the decoder guesses right and the labels that fit.
  (That the decoder returns on every value is Props/C11p.lean.)
-/
import Yabgp.Model.Pmsi
import Yabgp.Model.Construct.SrtePmsi

namespace Yabgp
open Yabgp.Mp Yabgp.Pmsi Yabgp.Construct

/-- the decoder guesses the family from the magnitude: an IPv6 address comes back as one only from 2^32 on -/
def FamilyKept : Ip → Prop
  | .v4 _ => True
  | .v6 n => p32 ≤ n

/-- the label fits the field it is written to: 20 bits (shifted by 4), 24 bits for a VNI -/
def LabelFits : Overlay → Nat → Prop
  | .mpls, l => l < 1048576
  | .vni, l => l < 16777216
  | .unsupported, _ => True

theorem labelOf_be24 (evpn : Bool) (x : Nat) (hx : x < 16777216) (d : Bytes) (f t : UInt8) :
    parse evpn (f :: t :: (be24 x ++ d)) =
      (parseTunnelId t.toNat d).map (fun tid => ⟨f.toNat, t.toNat, if evpn then x else x / 16, tid⟩) := by
  simp only [be24, List.cons_append, List.nil_append, parse, labelOf, be24_val hx]
  cases parseTunnelId t.toNat d <;> rfl

theorem tunnelId_packed (a : Ip) (tb : Bytes) (h : packedOk a = some tb)
    (hfam : FamilyKept a) :
    parseTunnelId 6 tb = some (.ip a) := by
  unfold parseTunnelId
  simp only [show (6 : Nat) ≠ 0 by decide, if_false, if_true]
  cases a with
  | v4 n =>
    simp only [packedOk] at h
    split at h
    · rename_i hn
      simp only [Option.some.injEq] at h
      subst h
      have hne : be32 n ≠ [] := by simp [be32]
      have hv : beVal (be32 n) = n := by
        rw [be32_beN]; exact beVal_beN_of_lt (by unfold p32 at hn; omega)
      simp [intOfBytes, hne, hv, ipOfInt, hn]
    · cases h
  | v6 n =>
    simp only [packedOk] at h
    split at h
    · rename_i hn
      simp only [Option.some.injEq] at h
      subst h
      have hne : beN 16 n ≠ [] := beN_ne_nil (by decide)
      have hv : beVal (beN 16 n) = n := beVal_beN_of_lt (by unfold p128 at hn; omega)
      have h32 : ¬ n < p32 := by simp only [FamilyKept] at hfam; omega
      simp [intOfBytes, hne, hv, ipOfInt, hn, h32]
    · cases h

/-- **PMSI round trip** (decoder model after constructor model): what `PMSITunnel.construct` writes for an ingress-replication
    tunnel (type 6, the only type it can write) is decoded back to the same flag, type, label and address, with the label read
    the way it was written (`<< 4` for MPLS, as it is for a VXLAN / NVGRE overlay) - provided the label fits its field
    (20 bits, 24 for a VNI; the constructor silently keeps the low 24 bits of a larger one) and the address is not an IPv6
    address below 2^32 (the decoder guesses the family from the magnitude, see the example in Props/C11p.lean). -/
theorem C11_pmsi_roundtrip (o : Overlay) (leaf l : Nat) (a : Ip) (w : Bytes)
    (hc : constructPmsi o leaf 6 (some l) (some a) = some w)
    (hl : LabelFits o l) (hfam : FamilyKept a) :
    parse (o == .vni) (w.drop 3) = some ⟨leaf, 6, l, .ip a⟩ := by
  unfold constructPmsi at hc
  simp only at hc
  cases hlb : constructPmsiLabel o l with
  | none => simp [hlb] at hc
  | some lb =>
    cases htb : packedOk a with
    | none => simp [hlb, htb] at hc
    | some tb =>
      simp only [hlb, htb] at hc
      split at hc
      · rename_i hleaf
        simp only [Option.some.injEq] at hc
        subst hc
        have htid := tunnelId_packed a tb htb hfam
        cases o with
        | unsupported => simp [constructPmsiLabel] at hlb
        | mpls =>
          simp only [constructPmsiLabel, low24] at hlb
          split at hlb
          · simp only [Option.some.injEq] at hlb
            subst hlb
            simp only [be8, List.cons_append, List.nil_append, List.drop_succ_cons, List.drop_zero]
            have := labelOf_be24 false (l * 16) (by simp only [LabelFits] at hl; omega) tb (u8 leaf) (u8 6)
            have hb : (Overlay.mpls == Overlay.vni) = false := by decide
            rw [hb]
            rw [this]
            have h6 : (u8 6).toNat = 6 := u8_toNat (by decide)
            rw [h6, htid, u8_toNat hleaf.1]
            simp
          · cases hlb
        | vni =>
          simp only [constructPmsiLabel, low24] at hlb
          split at hlb
          · simp only [Option.some.injEq] at hlb
            subst hlb
            simp only [be8, List.cons_append, List.nil_append, List.drop_succ_cons, List.drop_zero]
            have := labelOf_be24 true l (by simpa only [LabelFits] using hl) tb (u8 leaf) (u8 6)
            have hb : (Overlay.vni == Overlay.vni) = true := by decide
            rw [hb]
            rw [this]
            have h6 : (u8 6).toNat = 6 := u8_toNat (by decide)
            rw [h6, htid, u8_toNat hleaf.1]
            simp
          · cases hlb
      · cases hc

example : constructPmsi .mpls 1 6 (some 1000) (some (.v4 3232238090)) = some ([0xC0, 22, 9, 1, 6, 0, 0x3e, 0x80, 192, 168, 10, 10]) ∧
    LabelFits .mpls 1000 ∧ FamilyKept (.v4 3232238090) :=
  ⟨by decide, by simp [LabelFits], trivial⟩

end Yabgp
#print axioms Yabgp.C11_pmsi_roundtrip
