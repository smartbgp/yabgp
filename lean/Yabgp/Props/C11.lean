/-
  C11 — every decoder terminates on every input; UPDATE decoding never raises.  This file: the decoders of the
  UPDATE / OPEN / small-message models.  Every decoder of `Yabgp/Model` is a total Lean function defined by
  structural or well-founded recursion on the remaining input WITHOUT fuel, so its acceptance by Lean's
  termination checker is the termination proof for every input of every length; the theorems below give the
  progress made by every loop iteration (the facts those termination proofs rest on), the resulting work bounds,
  and the never-raises statement.  (TLV decoders of BGP-LS / Prefix-SID: Props/C11b.)
-/
import Yabgp.Lemmas.Compose
import Yabgp.Lemmas.PrefixRt
import Yabgp.Props.C04   -- `C04_terminates` (the receive-buffer deframer) is one of C11's obligations; the audit looks for it from here
import Yabgp.Props.C11b
import Yabgp.Props.C11p
import Yabgp.Props.C11q

namespace Yabgp

theorem slice_length_of_le {b : Bytes} {i j : Nat} (hj : j ≤ b.length) : (slice b i j).length = j - i := by
  unfold slice; simp; omega

theorem unpackH_some_of_length {v : Bytes} (h : v.length = 2) : ∃ n, unpackH v = some n := by
  match v, h with
  | [a, b], _ => exact ⟨_, rfl⟩

/-- **UPDATE decoding never raises**: a body whose two length fields are in range (the withdrawn-routes length
    field exists and the attribute length field lies inside the body) always yields a result object - whatever
    the remaining octets are (errors are reported inside the result as a sub-code) -/
theorem C11_update_never_raises (asn4 addpath : Bool) (msg : Bytes) (wl : Nat)
    (h2 : 2 ≤ msg.length) (hw : unpackH (slice msg 0 2) = some wl) (h4 : wl + 4 ≤ msg.length) :
    ∃ r, parseUpdate asn4 addpath msg = some r := by
  have hl : (slice msg (wl + 2) (wl + 4)).length = 2 := by
    rw [slice_length_of_le h4]; omega
  obtain ⟨al, hal⟩ := unpackH_some_of_length hl
  unfold parseUpdate
  simp only [hw, hal]
  exact ⟨_, rfl⟩

theorem C11_update_first_field (msg : Bytes) (h2 : 2 ≤ msg.length) : ∃ wl, unpackH (slice msg 0 2) = some wl ∧ wl < 65536 := by
  match msg, h2 with
  | a :: b :: r, _ =>
    refine ⟨a.toNat * 256 + b.toNat, by simp [slice, unpackH], ?_⟩
    have := a.toNat_lt; have := b.toNat_lt; omega

/-- conversely the only way not to get a result object is a length field out of range -/
theorem C11_update_raises_only_out_of_range (asn4 addpath : Bool) (msg : Bytes)
    (h : parseUpdate asn4 addpath msg = none) :
    msg.length < 2 ∨ ∃ wl, unpackH (slice msg 0 2) = some wl ∧ msg.length < wl + 4 := by
  by_cases h2 : 2 ≤ msg.length
  · right
    obtain ⟨wl, hw, _⟩ := C11_update_first_field msg h2
    refine ⟨wl, hw, ?_⟩
    by_cases h4 : wl + 4 ≤ msg.length
    · obtain ⟨r, hr⟩ := C11_update_never_raises asn4 addpath msg wl h2 hw h4
      rw [hr] at h; cases h
    · omega
  · left; omega

/-- NLRI / withdrawn-routes loop: every iteration consumes at least one octet … -/
theorem C11_prefix_progress {addpath : Bool} {b r : Bytes} {p : Pfx}
    (h : stepPrefix addpath b = some (p, r)) : r.length < b.length := stepPrefix_length h

/-- … so the loop runs at most `b.length` times -/
theorem C11_prefix_work (addpath : Bool) : ∀ (n : Nat) (b : Bytes) (ps : List Pfx), b.length ≤ n →
    parsePrefixList addpath b = some ps → ps.length ≤ b.length := by
  -- by induction on the result: every element of it cost the loop at least one octet
  intro _ b ps hb
  clear hb
  induction ps generalizing b with
  | nil => exact fun _ => Nat.zero_le _
  | cons p qs ih =>
    intro h
    match b with
    | [] => rw [parsePrefixList_nil] at h; cases h
    | x :: xs =>
      rw [parsePrefixList_cons] at h
      split at h
      · cases h
      · rename_i hs
        split at h
        · rename_i hr
          cases h
          exact Nat.lt_of_le_of_lt (ih _ hr) (stepPrefix_length hs)
        · cases h

/-- path-attribute loop: every iteration consumes at least the 3-octet header, and the value handed to the
    per-attribute decoder is a slice of the container (no decoder ever sees more octets than were received) -/
theorem C11_attr_progress {b v r : Bytes} {f t : Nat} (h : splitAttr b = some (f, t, v, r)) :
    r.length + 3 ≤ b.length ∧ v.length + 3 ≤ b.length := by
  unfold splitAttr at h
  split at h
  · rename_i f' t' rest
    split at h
    · split at h
      · rename_i n r' hr
        simp only [Option.some.injEq, Prod.mk.injEq] at h
        have := rd16_length hr
        rw [← h.2.2.2, ← h.2.2.1]; simp; omega
      · simp at h
    · split at h
      · simp only [Option.some.injEq, Prod.mk.injEq] at h
        rw [← h.2.2.2, ← h.2.2.1]; simp [Nat.min_le_right]
      · simp at h
  · simp at h

/-- AS_PATH loop: a decoded path has at most `v.length / 2` segments -/
theorem C11_aspath_work (four : Bool) : ∀ (n : Nat) (v : Bytes) (segs : List (Nat × List Nat)), v.length ≤ n →
    parseAsPath four v = .ok segs → 2 * segs.length ≤ v.length := by
  -- by induction on the result: every segment of it cost the loop its two header octets
  intro _ v segs hv
  clear hv
  induction segs generalizing v with
  | nil => exact fun _ => Nat.zero_le _
  | cons s ss ih =>
    intro h
    match v with
    | [] | [_] => rw [parseAsPath] at h; cases h
    | t :: c :: rest =>
      rw [parseAsPath_cons] at h
      split at h
      · cases h
      · split at h
        · cases h
        · split at h
          · rename_i hr
            cases h
            have := ih _ hr
            simp only [List.length_drop, List.length_cons] at this ⊢
            omega
          · cases h

/-- OPEN capability loop: every iteration consumes the 2-octet header and the value it announces -/
theorem C11_caps_progress (c l : UInt8) (rest : Bytes) :
    (rest.drop l.toNat).length + 2 ≤ (c :: l :: rest).length ∧ (rest.take l.toNat).length ≤ rest.length := by
  simp [Nat.min_le_right]

/-- COMMUNITIES / CLUSTER_LIST / LARGE_COMMUNITY: the entry list is no longer than the value (a quarter of it, `words32_length`) -/
theorem C11_words_work (v : Bytes) : (words32 v).length ≤ v.length := by
  rw [words32_length]; omega

example : ∃ r, parseUpdate false false [0, 0, 0, 4, 0x40, 1, 1, 9] = some r :=
  C11_update_never_raises false false _ 0 (by simp) rfl (by simp)

end Yabgp

#print axioms Yabgp.C11_update_never_raises
#print axioms Yabgp.C11_update_raises_only_out_of_range
#print axioms Yabgp.C11_prefix_work
#print axioms Yabgp.C11_attr_progress
#print axioms Yabgp.C11_aspath_work
