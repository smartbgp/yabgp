/-
  C08 — everything the agent constructs is structurally valid BGP on the wire.
  For every constructor model, `construct x = some w → Walker.valid cfg w = true` for ALL inputs ("valid or error").  The specification is Spec/Walker.lean; helper lemmas are in
  Lemmas/WalkerLemmas.lean.
-/
import Yabgp.Lemmas.WalkerLemmas
import Yabgp.Props.C14
import Yabgp.Gen.AttrFlags

namespace Yabgp
open Walker

theorem C08_keepalive (cfg : Cfg) : valid cfg constructKeepalive = true := by
  have := valid_header cfg C.msgKeepalive [] (by decide) (by decide)
  simpa [constructKeepalive, bodyOk, C.msgKeepalive] using this

theorem C08_notification (cfg : Cfg) (err sub : Nat) (data w : Bytes)
    (hc : constructNotification err sub data = some w) : valid cfg w = true := by
  unfold constructNotification at hc
  split at hc
  · exact constructHeader_valid cfg C.msgNotification _ w (by decide) hc (by simp [bodyOk, C.msgNotification, be8])
  · simp at hc

/-- `RouteRefresh.construct(msg_type)`: the type is the caller's; 5 (RFC 2918) and 128 (pre-standard) are the
    two the code documents and uses -/
theorem C08_routerefresh (cfg : Cfg) (ty afi res safi : Nat) (w : Bytes) (hty : ty = 5 ∨ ty = 128)
    (hc : constructRouteRefresh ty afi res safi = some w) : valid cfg w = true := by
  unfold constructRouteRefresh at hc
  split at hc
  · rename_i h
    refine constructHeader_valid cfg ty _ w h.2.2.2 hc ?_
    rcases hty with rfl | rfl <;> simp [bodyOk, be16, be8]
  · simp at hc

theorem capsOfLocal_noGr (asn : Nat) (c : LocalCaps) : (capsOfLocal asn c).all (·.all (·.code != 64)) = true := by
  simp only [capsOfLocal, List.all_append, Bool.and_eq_true]
  refine ⟨⟨⟨⟨⟨⟨?_, ?_⟩, ?_⟩, ?_⟩, ?_⟩, ?_⟩, ?_⟩ <;> split <;> simp [Spec.Cap.code]

/-- the capability block is the reference encoding of `capsOfLocal` (C14), which holds no graceful restart -/
theorem seq_constructCaps (asn : Nat) (c : LocalCaps) (b : Bytes) (h : constructCaps asn c = some b) :
    Seq optParamItem b := by
  obtain ⟨rfl, hok⟩ := constructCaps_eq_ref asn c b h
  refine Seq.flatMap _ _ fun p hp => seq_encParam p (fun x hx => ⟨(hok p hp).1 x hx, ?_⟩) (hok p hp).2
  simpa using List.all_eq_true.mp (List.all_eq_true.mp (capsOfLocal_noGr asn c) p hp) x hx

/-- every OPEN the constructor returns: the optional-parameters length is the size of what follows, every
    optional parameter is of type 2 and holds exactly one well-formed capability -/
theorem C08_open (cfg : Cfg) (version asn hold bgpId : Nat) (c : LocalCaps) (w : Bytes)
    (hc : constructOpen version asn hold bgpId c = some w) : valid cfg w = true := by
  unfold constructOpen at hc
  cases hcap : constructCaps asn c with
  | none => simp [hcap] at hc
  | some capas =>
    simp only [hcap, Option.bind_eq_bind, Option.bind_some] at hc
    split at hc
    · rename_i h
      refine constructHeader_valid cfg C.msgOpen _ w (by decide) hc ?_
      have hs := (seq_constructCaps asn c capas hcap).all
      simp [bodyOk, C.msgOpen, openOk, be8, be16, be32, u8_toNat h.2.2.2, hs]
    · simp at hc

/-- the body `Update.construct` puts together (repaired: a path identifier is required exactly with add-path) is a valid UPDATE body for the session
    parameters it was constructed for: both length fields are the sizes of what they announce, every
    attribute is well-formed with the flags of its category, every prefix occupies ceil(len/8) octets and,
    with add-path, is preceded by its path identifier -/
theorem C08_update_body (asn4 addpath : Bool) (m : UpdMsg) (body : Bytes)
    (hg : pathIdGuard addpath m.nlri = true ∧ pathIdGuard addpath m.withdraw = true)
    (hc : constructUpdateBody asn4 addpath m = some body) :
    updateOk { asn4 := asn4, addpath := addpath } body = true := by
  unfold constructUpdateBody at hc
  cases ha : constructAttributes asn4 m.attr with
  | none => simp [ha] at hc
  | some a =>
  cases hn : constructPrefixV4 addpath m.nlri with
  | none => simp [ha, hn] at hc
  | some n =>
  cases hw : constructPrefixV4 addpath m.withdraw with
  | none => simp [ha, hn, hw] at hc
  | some w =>
  simp only [ha, hn, hw, Option.bind_eq_bind, Option.bind_some, Option.pure_def] at hc
  split at hc
  · rename_i hlen
    simp only [Option.some.injEq] at hc
    subst hc
    exact updateOk_of_parts { asn4 := asn4, addpath := addpath } w a n hlen.1 hlen.2
      (seq_constructPrefixV4 addpath m.withdraw hg.2 w hw).all
      (seq_constructAttributes { asn4 := asn4, addpath := addpath } m.attr a ha).all
      (seq_constructPrefixV4 addpath m.nlri hg.1 n hn).all
  · simp at hc

/-- C08 for `Update.construct` (as repaired): whatever it returns walks; all inputs, both AS widths, add-path
    on and off -/
theorem C08_update (asn4 addpath : Bool) (m : UpdMsg) (w : Bytes)
    (hc : constructUpdateR asn4 addpath m = some w) :
    valid { asn4 := asn4, addpath := addpath } w = true := by
  unfold constructUpdateR at hc
  split at hc
  · rename_i hg
    simp only [Bool.and_eq_true] at hg
    unfold constructUpdate at hc
    cases hb : constructUpdateBody asn4 addpath m with
    | none => simp [hb] at hc
    | some body =>
      simp only [hb, Option.bind_eq_bind, Option.bind_some] at hc
      refine constructHeader_valid _ C.msgUpdate body w (by decide) hc ?_
      simpa [bodyOk, C.msgUpdate] using C08_update_body asn4 addpath m body hg hb
  · simp at hc

/-- without add-path the guard is vacuous: the unguarded constructor already satisfies C08 -/
theorem C08_update_no_addpath (asn4 : Bool) (m : UpdMsg) (w : Bytes)
    (hc : constructUpdate asn4 false m = some w) : valid { asn4 := asn4, addpath := false } w = true :=
  C08_update asn4 false m w (by simpa [constructUpdateR, pathIdGuard] using hc)

namespace Mp

/-- whatever `MpReachNLRI.construct` (as repaired: IPv4 prefix lengths within 0..32, IPv6 next hops for IPv6 unicast) returns is ONE well-formed path attribute -
    flags of an optional non-transitive attribute with extended length, 2-octet length = the octets that follow,
    next-hop length = next-hop octets, reserved octet, every route `length in bits` + ceil(bits/8) octets with
    the label(s) [and route distinguisher] accounted for - in front of anything (`Seq`) -/
theorem C08_mp_reach (cfg : Cfg) (v : MpReachVal) (w : Bytes) (hc : constructMpReachR v = .ok w) :
    Seq (attrItem cfg) w := by
  unfold constructMpReachR at hc
  split at hc
  · rename_i hg
    unfold constructMpReach at hc
    split at hc
    · -- VPN: next hop is a zero route distinguisher and an address
      rename_i af rd a rs
      split at hc
      · rename_i nh nl hnh hnl
        have hgl : af = .inet → rs.all (fun r => v4LenOk r.pfx) = true := by
          intro ha; subst ha; simpa [reachGuard] using hg
        refine seq_mpReach cfg af.afi safiVpn nh.length nh nl w (by have := afi_cases af; omega)
          (by decide) rfl ?_ (nlriOk_vpn af nl (seq_constructVpn af false rs nl hgl hnl).all) hc
        unfold constructVpnNexthop at hnh
        split at hnh
        · simp only [Option.ite_none_right_eq_some, Option.some.injEq] at hnh
          obtain ⟨_, rfl⟩ := hnh
          simp only [List.length_append, be16_length, be32_length]
          have := packed_cases a; omega
        · cases hnh
      · cases hc
    · rename_i af nh rs
      split at hc
      · cases hc
      · rename_i nl hnl
        split at hc
        · cases hc
        · split at hc
          · cases hc
          · rename_i a
            have hgl : af = .inet → rs.all (fun r => v4LenOk r.pfx) = true := by
              intro ha; subst ha; simpa [reachGuard] using hg
            exact seq_mpReach cfg af.afi safiLabel _ a.packed nl w (by have := afi_cases af; omega)
              (by decide) rfl (by have := packed_cases a; omega)
              (nlriOk_labeled af nl (seq_constructLu af rs nl hgl hnl).all) hc
    · -- IPv6 unicast: the guard makes both next hops IPv6, so the announced 16 / 32 octets are there
      rename_i a ll rs
      simp only [reachGuard, Bool.and_eq_true] at hg
      obtain ⟨n, rfl⟩ : ∃ n, a = .v6 n := by cases a <;> simp [Ip.isV6] at hg ⊢
      split at hc
      · cases hc
      · rename_i nl hnl
        have hok := nlriOk_u6 nl (seq_constructU6 rs nl hnl).all
        split at hc
        · exact seq_mpReach cfg 2 safiUnicast 16 _ nl w (by decide) (by decide) (by simp [Ip.packed]) (by decide)
            hok hc
        · rename_i l
          obtain ⟨m, rfl⟩ : ∃ m, l = .v6 m := by cases l <;> simp [Ip.isV6] at hg ⊢
          exact seq_mpReach cfg 2 safiUnicast 32 _ nl w (by decide) (by decide) (by simp [Ip.packed]) (by decide)
            hok hc
    · cases hc
  · cases hc

/-- the same for `MpUnReachNLRI.construct` (as repaired: IPv4 prefix lengths within 0..32) -/
theorem C08_mp_unreach (cfg : Cfg) (v : MpUnreachVal) (w : Bytes) (hc : constructMpUnreachR v = .ok w) :
    Seq (attrItem cfg) w := by
  unfold constructMpUnreachR at hc
  split at hc
  · rename_i hg
    unfold constructMpUnreach at hc
    split at hc
    · rename_i af rs
      split at hc
      · cases hc
      · rename_i nl hnl
        split at hc
        · cases hc
        · have hgl : af = .inet → rs.all (fun r => v4LenOk r.pfx) = true := by
            intro ha; subst ha; simpa [unreachGuard] using hg
          exact seq_mpUnreach cfg af.afi safiVpn nl w (by have := afi_cases af; omega) (by decide)
            (nlriOk_vpn af nl (seq_constructVpn af true rs nl hgl hnl).all) hc
    · rename_i rs
      split at hc
      · cases hc
      · split at hc
        · cases hc
        · rename_i nl hnl
          exact seq_mpUnreach cfg 1 safiLabel nl w (by decide) (by decide)
            (nlriOk_labeled .inet nl (seq_constructLuWithdraw .inet rs nl
              (fun _ => by simpa [unreachGuard] using hg) hnl).all) hc
    · cases hc
    · rename_i rs
      split at hc
      · cases hc
      · rename_i nl hnl
        split at hc
        · cases hc
        · exact seq_mpUnreach cfg 2 safiUnicast nl w (by decide) (by decide)
            (nlriOk_u6 nl (seq_constructU6 rs nl hnl).all) hc
    · cases hc
    · cases hc
  · cases hc

end Mp

/-- `Update.construct` assembles `withdrawn-length ‖ withdrawn ‖ attribute-length ‖ attributes ‖ NLRI` and the
    header.  Whatever the attribute octets are made of - standard attributes (`seq_constructAttributes`),
    MP_REACH_NLRI / MP_UNREACH_NLRI (`Mp.C08_mp_reach`, `Mp.C08_mp_unreach`), in any order and number
    (`Seq.append`) - the message is valid as soon as each part is a sequence of well-formed items. -/
theorem C08_update_assembled (cfg : Cfg) (wd attrs nlri msg : Bytes)
    (hwd : Seq (pathPrefixItem cfg.addpath 32) wd) (hattrs : Seq (attrItem cfg) attrs)
    (hnlri : Seq (pathPrefixItem cfg.addpath 32) nlri)
    (hwl : wd.length < 65536) (hal : attrs.length < 65536)
    (hc : constructHeader C.msgUpdate (be16 wd.length ++ wd ++ be16 attrs.length ++ attrs ++ nlri) = some msg) :
    valid cfg msg = true := by
  refine constructHeader_valid cfg C.msgUpdate _ msg (by decide) hc ?_
  simpa [bodyOk, C.msgUpdate] using updateOk_of_parts cfg wd attrs nlri hwl hal hwd.all hattrs.all hnlri.all

/-- instance: standard attributes, then an MP_REACH_NLRI, then an MP_UNREACH_NLRI, IPv4 NLRI and withdrawals -/
theorem C08_update_with_mp (asn4 addpath : Bool) (std : List (Nat × AttrVal)) (reach : Mp.MpReachVal)
    (unreach : Mp.MpUnreachVal) (nlri withdraw : List Pfx) (a r u n w msg : Bytes)
    (hg : pathIdGuard addpath nlri = true ∧ pathIdGuard addpath withdraw = true)
    (ha : constructAttributes asn4 std = some a) (hr : Mp.constructMpReachR reach = .ok r)
    (hu : Mp.constructMpUnreachR unreach = .ok u)
    (hn : constructPrefixV4 addpath nlri = some n) (hw : constructPrefixV4 addpath withdraw = some w)
    (hwl : w.length < 65536) (hal : (a ++ r ++ u).length < 65536)
    (hc : constructHeader C.msgUpdate (be16 w.length ++ w ++ be16 (a ++ r ++ u).length ++ (a ++ r ++ u) ++ n) = some msg) :
    valid { asn4 := asn4, addpath := addpath } msg = true :=
  C08_update_assembled { asn4 := asn4, addpath := addpath } w (a ++ r ++ u) n msg
    (seq_constructPrefixV4 addpath withdraw hg.2 w hw)
    (Seq.append (Seq.append (seq_constructAttributes { asn4 := asn4, addpath := addpath } std a ha)
      (Mp.C08_mp_reach _ reach r hr)) (Mp.C08_mp_unreach _ unreach u hu))
    (seq_constructPrefixV4 addpath nlri hg.1 n hn) hwl hal hc

/-- every `Attribute` subclass of the repository that has a constructor carries flag bits of the RFC category
    of its type code (`Gen/AttrFlags.lean` is rewritten from the source by `harness/gen_tables.py`) -/
theorem C08_flags_generated : ∀ e ∈ Gen.Attr.flagTable, flagsOk e.1 e.2 = true := by decide

/-- and the bit values themselves are the ones of RFC 4271 §4.3 the walker is written with -/
theorem C08_flag_bits_generated :
    [Gen.Attr.OPTIONAL, Gen.Attr.TRANSITIVE, Gen.Attr.PARTIAL, Gen.Attr.EXTENDED_LENGTH] = [128, 64, 32, 16] := by
  decide

/-! ### the messages the code constructed before the repairs: none of them walks.
    Literal octets as the unrepaired constructors returned them, so these stay true whatever happens to the models. -/

/-- `Update.construct({'attr': {1: 0}, 'nlri': ['10.0.0.0/8']}, addpath=True)` - no path identifier in front of `08 0a` -/
theorem KF_C08_addpath_plain_prefix :
    valid { addpath := true } (marker ++ [0, 29, 2, 0, 0, 0, 4, 64, 1, 1, 0, 8, 10]) = false := by decide

/-- `{'attr': {1: 0}, 'nlri': ['::/64']}` - length 64 and four address octets -/
theorem KF_C08_ipv6_prefix_in_ipv4_nlri :
    valid {} (marker ++ [0, 32, 2, 0, 0, 0, 4, 64, 1, 1, 0, 64, 0, 0, 0, 0]) = false := by decide

/-- `{'attr': {9: '::'}}` - length 4, sixteen octets written -/
theorem KF_C08_originator_id_ipv6 :
    valid {} (marker ++ [0, 42, 2, 0, 0, 0, 19, 128, 9, 4, 0, 0, 0, 0, 0, 0, 0, 0, 0, 0, 0, 0, 0, 0, 0, 0]) = false := by decide

/-- `{'attr': {7: [100, '::']}}` - an AGGREGATOR of 18 octets -/
theorem KF_C08_aggregator_ipv6 :
    valid {} (marker ++ [0, 44, 2, 0, 0, 0, 21, 192, 7, 18, 0, 100, 0, 0, 0, 0, 0, 0, 0, 0, 0, 0, 0, 0, 0, 0, 0, 0]) = false := by decide

/-- `{'attr': {32: ['1:2']}}` - a LARGE_COMMUNITY value of 8 octets -/
theorem KF_C08_large_community_two_fields :
    valid {} (marker ++ [0, 34, 2, 0, 0, 0, 11, 224, 32, 8, 0, 0, 0, 1, 0, 0, 0, 2]) = false := by decide

/-- `{'attr': {16: [[2048, '::', 0]]}}` - an extended community of 20 octets -/
theorem KF_C08_extcomm_redirect_nh_ipv6 :
    valid {} (marker ++ [0, 46, 2, 0, 0, 0, 23, 192, 16, 20, 8, 0, 0, 0, 0, 0, 0, 0, 0, 0, 0, 0, 0, 0, 0, 0, 0, 0, 0, 0]) = false := by decide

/-- labeled unicast `{'prefix': '10.0.0.0/33', 'label': [3]}` - 57 bits announced, 7 octets written -/
theorem KF_C08_labeled_prefix_length_33 :
    valid {} (marker ++ [0, 44, 2, 0, 0, 0, 21, 144, 14, 0, 17, 0, 1, 4, 4, 10, 0, 0, 1, 0, 57, 0, 0, 49, 10, 0, 0, 0]) = false := by decide

/-- `{'afi_safi': (2, 1), 'nexthop': '1.2.3.4', 'nlri': ['::/0']}` - next-hop length 16, 4 octets written -/
theorem KF_C08_ipv6_unicast_ipv4_nexthop :
    valid {} (marker ++ [0, 37, 2, 0, 0, 0, 14, 144, 14, 0, 10, 0, 2, 1, 16, 1, 2, 3, 4, 0, 0]) = false := by decide

/-- SR policy NLRI under AFI 1 with endpoint `::1` - 192 bits -/
theorem KF_C08_srte_ipv6_endpoint :
    valid {} (marker ++ [0, 61, 2, 0, 0, 0, 38, 144, 14, 0, 34, 0, 1, 73, 4, 10, 0, 0, 1, 0, 192, 0, 0, 0, 0, 0, 0, 0, 100, 0, 0, 0, 0, 0, 0, 0, 0, 0, 0, 0, 0, 0, 0, 0, 1]) = false := by decide

/-- Ethernet A-D route with ESI type 6 - no ESI octets at all, 15 octets instead of 25 -/
theorem KF_C08_evpn_esi_unknown_type :
    valid {} (marker ++ [0, 53, 2, 0, 0, 0, 30, 144, 14, 0, 26, 0, 25, 70, 4, 10, 0, 0, 1, 0, 1, 15, 0, 0, 0, 1, 0, 0, 0, 1, 0, 0, 0, 1, 0, 0, 161]) = false := by decide

/-- MAC/IP advertisement route without label - 30 octets, MPLS Label1 missing -/
theorem KF_C08_evpn_type2_no_label :
    valid {} (marker ++ [0, 68, 2, 0, 0, 0, 45, 144, 14, 0, 41, 0, 25, 70, 4, 10, 0, 0, 1, 0, 2, 30, 0, 0, 0, 1, 0, 0, 0, 1, 0, 0, 0, 0, 0, 0, 0, 0, 0, 0, 0, 0, 0, 1, 48, 0, 17, 34, 51, 68, 85, 0]) = false := by decide

/-- IP prefix route `10.0.0.0/8` with gateway `::1` - 46 octets, neither 34 nor 58 -/
theorem KF_C08_evpn_type5_mixed_families :
    valid {} (marker ++ [0, 84, 2, 0, 0, 0, 61, 144, 14, 0, 57, 0, 25, 70, 4, 10, 0, 0, 1, 0, 5, 46, 0, 0, 0, 1, 0, 0, 0, 1, 0, 0, 0, 0, 0, 0, 0, 0, 0, 0, 0, 0, 0, 1, 8, 10, 0, 0, 0, 0, 0, 0, 0, 0, 0, 0, 0, 0, 0, 0, 0, 0, 0, 0, 1, 0, 0, 161]) = false := by decide

/-- segment sub-TLV type 3 with node `::1` - length 6, 18 octets written -/
theorem KF_C08_tunnel_segment_ipv6_node :
    valid {} (marker ++ [0, 59, 2, 0, 0, 0, 36, 208, 23, 0, 32, 0, 15, 0, 28, 13, 2, 0, 0, 128, 0, 21, 0, 3, 6, 0, 0, 0, 0, 0, 0, 0, 0, 0, 0, 0, 0, 0, 0, 0, 0, 0, 1]) = false := by decide

/-- remote endpoint `'afi': 'ipv4'` with an IPv6 address - length 10, 22 octets written -/
theorem KF_C08_tunnel_remote_endpoint_family :
    valid {} (marker ++ [0, 59, 2, 0, 0, 0, 36, 208, 23, 0, 32, 0, 15, 0, 28, 13, 2, 0, 0, 6, 10, 0, 0, 1, 44, 0, 1, 32, 1, 13, 184, 0, 0, 0, 0, 0, 0, 0, 0, 0, 0, 0, 1]) = false := by decide

/-- IPv6 flow specification `{5: '=80&=90'}` - component type 5 without any operator -/
theorem KF_C08_flowspec6_and_items :
    valid {} (marker ++ [0, 34, 2, 0, 0, 0, 11, 144, 14, 0, 7, 0, 2, 133, 0, 0, 1, 5]) = false := by decide

/-- `{3: '=1099511627776'}` - length code 8, six octets written -/
theorem KF_C08_flowspec6_six_octet_value :
    valid {} (marker ++ [0, 41, 2, 0, 0, 0, 18, 144, 14, 0, 14, 0, 2, 133, 0, 0, 8, 3, 177, 1, 0, 0, 0, 0, 0]) = false := by decide

/-- `{1: {'prefix': '2001:db8::/33', 'offset': 3}}` - five pattern octets where ceil(30/8) = 4 belong -/
theorem KF_C08_flowspec6_prefix_offset :
    valid {} (marker ++ [0, 41, 2, 0, 0, 0, 18, 144, 14, 0, 14, 0, 2, 133, 0, 0, 8, 1, 33, 3, 32, 1, 13, 184, 0]) = false := by decide

/-- IPv4 flow specification `{1: '10.0.0.0/33'}` - length 33 and four address octets -/
theorem KF_C08_flowspec4_prefix_length_33 :
    valid {} (marker ++ [0, 39, 2, 0, 0, 0, 16, 144, 14, 0, 12, 0, 1, 133, 0, 0, 6, 1, 33, 10, 0, 0, 0]) = false := by decide

/-! ### non-vacuity: the constructors do return messages, and those walk -/

set_option maxRecDepth 8000 in
example : ∃ w, constructUpdateR true true
    { attr := [(1, .origin 0), (2, .asPath [(2, [65001, 4200000000])]), (3, .nextHop 16843009), (4, .med 5),
               (5, .localPref 100), (6, .atomicAgg), (7, .aggregator 4200000000 16843009), (8, .community [4294967041]),
               (9, .originatorId 1), (10, .clusterList [1, 2]), (32, .largeCommunity [(1, 2, 3)])],
      nlri := [{ addr := 167772160, len := 8, pathId := some 7 }, { addr := 0, len := 0, pathId := some 1 }],
      withdraw := [{ addr := 3232235776, len := 24, pathId := some 4294967295 }] } = some w ∧
    valid { asn4 := true, addpath := true } w = true :=
  exists_of_isSome (by decide) (fun w h => C08_update true true _ w h)

set_option maxRecDepth 8000 in
example : ∃ w, constructOpen 4 4200000000 180 16843009
    { afiSafi := some [(1, 1), (2, 1)], routeRefresh := true, ciscoRouteRefresh := true, fourBytesAs := true,
      extNexthop := some [(1, 1, 2)], addPath := some 3, enhancedRouteRefresh := true } = some w ∧
    valid {} w = true :=
  exists_of_isSome (by decide) (fun w h => C08_open {} _ _ _ _ _ w h)

set_option maxRecDepth 8000 in
example : ∃ w, Mp.constructMpReachR (.vpn .inet (.asForm 0 0) (.v4 33686018)
    [{ labels := [25], rd := .asForm 100 100, pfx := { addr := .v4 3232235776, len := 24 } }]) = .ok w ∧
    all (attrItem {}) w = true :=
  exists_of_ok (by decide) (fun w h => (Mp.C08_mp_reach {} _ w h).all)

set_option maxRecDepth 8000 in
example : ∃ w, Mp.constructMpReachR (.labeled .inet6 (some (.v6 1))
    [{ labels := [3, 16], pfx := { addr := .v6 (42540766411282592856903984951653826560), len := 32 } }]) = .ok w ∧
    all (attrItem {}) w = true :=
  exists_of_ok (by decide) (fun w h => (Mp.C08_mp_reach {} _ w h).all)

set_option maxRecDepth 8000 in
example : ∃ w, Mp.constructMpUnreachR (.ipv6Unicast [{ pfx := { addr := .v6 (42540766411282592856903984951653826560), len := 32 } }])
    = .ok w ∧ all (attrItem {}) w = true :=
  exists_of_ok (by decide) (fun w h => (Mp.C08_mp_unreach {} _ w h).all)

/-- the walker does reject: a KEEPALIVE with one octet too many, an attribute whose length overruns -/
example : valid {} (constructKeepalive ++ [0]) = false := by decide
example : valid {} (marker ++ be16 27 ++ be8 2 ++ [0, 0, 0, 4, 0x40, 1, 2, 0]) = false := by decide

end Yabgp

#print axioms Yabgp.C08_keepalive
#print axioms Yabgp.C08_notification
#print axioms Yabgp.C08_routerefresh
#print axioms Yabgp.C08_open
#print axioms Yabgp.C08_update_body
#print axioms Yabgp.C08_update
#print axioms Yabgp.C08_update_no_addpath
#print axioms Yabgp.Mp.C08_mp_reach
#print axioms Yabgp.Mp.C08_mp_unreach
#print axioms Yabgp.C08_update_assembled
#print axioms Yabgp.C08_update_with_mp
#print axioms Yabgp.C08_flags_generated
#print axioms Yabgp.C08_flag_bits_generated
#print axioms Yabgp.KF_C08_addpath_plain_prefix
#print axioms Yabgp.KF_C08_ipv6_prefix_in_ipv4_nlri
#print axioms Yabgp.KF_C08_originator_id_ipv6
#print axioms Yabgp.KF_C08_aggregator_ipv6
#print axioms Yabgp.KF_C08_large_community_two_fields
#print axioms Yabgp.KF_C08_extcomm_redirect_nh_ipv6
#print axioms Yabgp.KF_C08_labeled_prefix_length_33
#print axioms Yabgp.KF_C08_ipv6_unicast_ipv4_nexthop
#print axioms Yabgp.KF_C08_srte_ipv6_endpoint
#print axioms Yabgp.KF_C08_evpn_esi_unknown_type
#print axioms Yabgp.KF_C08_evpn_type2_no_label
#print axioms Yabgp.KF_C08_evpn_type5_mixed_families
#print axioms Yabgp.KF_C08_tunnel_segment_ipv6_node
#print axioms Yabgp.KF_C08_tunnel_remote_endpoint_family
#print axioms Yabgp.KF_C08_flowspec6_and_items
#print axioms Yabgp.KF_C08_flowspec6_six_octet_value
#print axioms Yabgp.KF_C08_flowspec6_prefix_offset
#print axioms Yabgp.KF_C08_flowspec4_prefix_length_33
