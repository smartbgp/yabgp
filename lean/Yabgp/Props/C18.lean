/-
  C18 — message statistics equal what actually crossed the wire.
  Received side: every frame handed to the dispatcher increments exactly the counter of its type, exactly
  once, and nothing the state machine does in reaction touches a receive counter.  Sent side: every send
  helper increments its counter exactly once and, on the tracked and open connection, writes exactly one
  message of that type; nothing else touches a send counter of the tracked connection.
-/
import Yabgp.Lemmas.SentBal

namespace Yabgp
open Sess

variable (U : Bool → Bytes → UpdClass)

def recvInc (ty : Nat) (body : Bytes) (st : Stats) : Stats :=
  if ty = 1 then incOpens st
  else if ty = 2 then incUpdates st
  else if ty = 3 then (if 2 ≤ body.length then incNotifications st else st)
  else if ty = 4 then incKeepalives st
  else if ty = 5 ∨ ty = 128 then incRouteRefresh st
  else st

theorem recv_bumpRecv (s : Sess) (i : Nat) (g : Stats → Stats) (hlt : i < s.conns.length) :
    ((s.bumpRecv i g).conn i).recv = g (s.conn i).recv := by
  simp [bumpRecv, conn_setConn, hlt]

theorem recv_bumpRecv_other (s : Sess) (i j : Nat) (g : Stats → Stats) (hne : i ≠ j) :
    ((s.bumpRecv i g).conn j).recv = (s.conn j).recv := by
  simp [bumpRecv, conn_setConn, hne]

theorem recv_setAsn4 (s : Sess) (i j : Nat) : ((s.setAsn4 i).conn j).recv = (s.conn j).recv := by
  simp only [setAsn4, conn_setConn]; split
  · rename_i h; rw [h.1]
  · rfl

/-- Received side: dispatching one frame on connection `i` changes that connection's receive counters by exactly
    the increment owed for the frame's type (frames of at least the type's minimum length: OPEN, UPDATE,
    KEEPALIVE, ROUTE-REFRESH always; NOTIFICATION when it has its two code octets), whatever the FSM does with the
    message. -/
theorem C18_received_counted_once (s : Sess) (i ty : Nat) (body : Bytes) (hlt : i < s.conns.length) :
    ((dispatch U s i ty body).1.conn i).recv = recvInc ty body (s.conn i).recv := by
  have kr := indep_recv.sends
  have bump : ∀ g, ((s.bumpRecv i g).conn i).recv = g (s.conn i).recv := fun g => recv_bumpRecv s i g hlt
  -- the report to the application leaves the connections alone, and so does the state machine's reaction
  have got : ∀ g o, (((s.bumpRecv i g).emit o).conn i).recv = g (s.conn i).recv := fun g _ => bump g
  refine dispatch_elim (P := fun r => (r.1.conn i).recv = recvInc ty body (s.conn i).recv) U s i ty body
    ?_ ?_ ?_ ?_ ?_ ?_ ?_ ?_ ?_ ?_ ?_ ?_
  · rintro rfl
    show ((s.openReceived i body).1.conn i).recv = incOpens (s.conn i).recv
    rw [← bump incOpens]
    have acc : ∀ (t : Sess) m, ((t.openAccepted i m).1.conn i).recv = (t.conn i).recv := by
      intro t m
      have caps : ∀ u, u = (t.withRemote m.caps).setAsn4 i ∨ u = t.withRemote m.caps → (u.conn i).recv = (t.conn i).recv := by
        rintro u (rfl | rfl)
        · exact recv_setAsn4 _ _ _
        · rfl
      exact openAccepted_elim (P := fun r => (r.1.conn i).recv = (t.conn i).recv) t i m
        (fun u hu => (kr.openMessageError u _ i).trans (caps u hu))
        (fun u hu => (kr.fsmOpenReceived _ i).trans (caps u hu))
    exact openReceived_elim (P := fun r => (r.1.conn i).recv = ((s.bumpRecv i incOpens).conn i).recv) s i body
      (fun sub _ => kr.headerError _ sub _ i) (fun sub _ => kr.openMessageError _ sub i) rfl
      (kr.openMessageError _ _ i) (fun m => acc _ m)
  · rintro rfl; exact bump _
  · rintro rfl; exact bump _
  · rintro rfl; exact (kr.fsmUpdateReceived _ i).trans (got _ _)
  · rintro rfl; exact (kr.fsmUpdateReceived _ i).trans (got _ _)
  · rintro rfl hp
    exact (if_neg (parseNotification_eq_none.mp hp)).symm
  · rintro e sub d rfl hp
    have hl : 2 ≤ body.length := Decidable.of_not_not fun h => by rw [parseNotification_eq_none.mpr h] at hp; cases hp
    exact ((kr.fsmNotificationReceived _ e sub i).trans (got _ _)).trans (if_pos hl).symm
  · rintro rfl; exact (kr.fsmKeepaliveReceived _ i).trans (got _ _)
  · rintro rfl; exact (kr.headerError _ _ _ i).trans (got _ _)
  · rintro (rfl | rfl) <;> exact bump _
  · rintro a r sf (rfl | rfl) <;> exact got _ _
  · intro h1 h2 h3 h4 h5
    rw [recvInc, if_neg h1, if_neg h2, if_neg h3, if_neg h4, if_neg h5]
    exact kr.headerError s _ _ i

theorem sent_bumpSent (s : Sess) (i : Nat) (g : Stats → Stats) (hlt : i < s.conns.length) :
    ((s.bumpSent i g).conn i).sent = g (s.conn i).sent := by
  simp [bumpSent, conn_setConn, hlt]

/-- Sent side: on the tracked, open connection every send helper counts its message once and writes it once. -/
theorem C18_sent_counted_once {s : Sess} {i : Nat} (h : Norm s i) :
    (∀ e sub d, e < 256 → sub < 256 → d.length + 21 < 65536 →
      ((s.sendNotification e sub d).conn i).sent = incNotifications (s.conn i).sent ∧
      (s.sendNotification e sub d).outs = s.outs ++ [.write i (notifWire e sub d)]) ∧
    (((s.sendKeepalive).conn i).sent = incKeepalives (s.conn i).sent ∧
      (s.sendKeepalive).outs = s.outs ++ [.write i constructKeepalive]) ∧
    (∀ w, s.openWire = some w →
      ((s.sendOpen).1.conn i).sent = incOpens (s.conn i).sent ∧
      ∃ rep, (s.sendOpen).1.outs = s.outs ++ [.write i w, rep]) := by
  refine ⟨?_, ?_, ?_⟩
  · intro e sub d he hs hd
    rw [sendNotification_norm h e sub d he hs hd]
    exact ⟨sent_bumpSent s i _ h.lt, rfl⟩
  · rw [sendKeepalive_norm h]
    exact ⟨sent_bumpSent s i _ h.lt, rfl⟩
  · intro w hw
    have hup : transportUp (s.conn i) = true := by simp [transportUp, h.up]
    rw [sendOpen_some h.proto hup hw, conn_emit, conn_emit]
    exact ⟨sent_bumpSent (s.withLocalCaps (negotiateCaps s.localCaps s.remote)) i incOpens h.lt, _,
      List.append_assoc s.outs [.write i w] [_]⟩

/-- and the counters never decrease nor jump: a NOTIFICATION, KEEPALIVE or OPEN send touches only its own counter -/
theorem C18_increments_are_single :
    (∀ st : Stats, (incNotifications st).notifications = st.notifications + 1 ∧ (incNotifications st).opens = st.opens ∧
      (incNotifications st).keepalives = st.keepalives ∧ (incNotifications st).updates = st.updates ∧
      (incNotifications st).routeRefresh = st.routeRefresh) ∧
    (∀ st : Stats, (incKeepalives st).keepalives = st.keepalives + 1 ∧ (incKeepalives st).opens = st.opens ∧
      (incKeepalives st).notifications = st.notifications ∧ (incKeepalives st).updates = st.updates ∧
      (incKeepalives st).routeRefresh = st.routeRefresh) ∧
    (∀ st : Stats, (incOpens st).opens = st.opens + 1 ∧ (incOpens st).keepalives = st.keepalives ∧
      (incOpens st).notifications = st.notifications ∧ (incOpens st).updates = st.updates ∧
      (incOpens st).routeRefresh = st.routeRefresh) ∧
    (∀ st : Stats, (incUpdates st).updates = st.updates + 1 ∧ (incUpdates st).opens = st.opens ∧
      (incUpdates st).notifications = st.notifications ∧ (incUpdates st).keepalives = st.keepalives ∧
      (incUpdates st).routeRefresh = st.routeRefresh) ∧
    (∀ st : Stats, (incRouteRefresh st).routeRefresh = st.routeRefresh + 1 ∧ (incRouteRefresh st).opens = st.opens ∧
      (incRouteRefresh st).notifications = st.notifications ∧ (incRouteRefresh st).keepalives = st.keepalives ∧
      (incRouteRefresh st).updates = st.updates) := by
  exact ⟨fun _ => ⟨rfl, rfl, rfl, rfl, rfl⟩, fun _ => ⟨rfl, rfl, rfl, rfl, rfl⟩, fun _ => ⟨rfl, rfl, rfl, rfl, rfl⟩,
    fun _ => ⟨rfl, rfl, rfl, rfl, rfl⟩, fun _ => ⟨rfl, rfl, rfl, rfl, rfl⟩⟩

/-- the frames the receive loop hands to the dispatcher, in order, when connection `i` receives `buf` -/
def dispatched : Nat → Sess → Nat → Bytes → List (Nat × Bytes)
  | 0, _, _, _ => []
  | fuel+1, s, i, buf =>
    if (s.conn i).disconnected then []
    else
      match headOf buf with
      | .frame ty body len =>
        (ty, body) :: (if (dispatch U s i ty body).2 then dispatched fuel (dispatch U s i ty body).1 i (buf.drop len) else [])
      | _ => []

/-- The receive loop as a chain of dispatches, ended by itself or by the NOTIFICATION for a framing error. -/
theorem drain_ind (i : Nat) {Q : Sess → Sess → List (Nat × Bytes) → Prop} (stop : ∀ s, Q s s [])
    (bad : ∀ s sub d, Q s (s.headerError sub d) [])
    (more : ∀ s ty body s' fs, Q (dispatch U s i ty body).1 s' fs → Q s s' ((ty, body) :: fs)) :
    ∀ (fuel : Nat) (s : Sess) (buf : Bytes), Q s (drain U fuel s i buf).1 (dispatched U fuel s i buf) := by
  intro fuel
  induction fuel with
  | zero => intro s buf; exact stop s
  | succ n ih =>
    intro s buf
    unfold drain dispatched
    unfold parseBuffer
    by_cases hd : (s.conn i).disconnected = true
    · simp only [hd, ↓reduceIte]; exact stop s
    · simp only [hd, Bool.false_eq_true, ↓reduceIte]
      cases hh : headOf buf with
      | short => exact stop s
      | badMarker => exact bad s _ _
      | badLength len => exact bad s _ _
      | frame ty body len =>
        simp only
        by_cases hc : (dispatch U s i ty body).2 = true
        · simp only [hc, ↓reduceIte]; exact more _ _ _ _ _ (ih _ _)
        · simp only [hc, Bool.false_eq_true, ↓reduceIte]; exact more _ _ _ _ _ (stop _)

/-- **Cumulative, received side**: after the receive loop has run over any buffer, the receive counters of the
    connection have moved by exactly the increments owed for the frames dispatched, in order - no frame is counted
    twice or skipped, whatever the state machine did in reaction (including closing the connection), and a framing
    error counts nothing. -/
theorem C18_received_cumulative (i : Nat) : ∀ (fuel : Nat) (s : Sess) (buf : Bytes), i < s.conns.length →
    ((drain U fuel s i buf).1.conn i).recv =
      (dispatched U fuel s i buf).foldl (fun st f => recvInc f.1 f.2 st) (s.conn i).recv := by
  refine drain_ind U i (Q := fun s s' fs => i < s.conns.length →
    (s'.conn i).recv = fs.foldl (fun st f => recvInc f.1 f.2 st) (s.conn i).recv) (fun _ _ => rfl) ?_ ?_
  · exact fun s sub d _ => indep_recv.sends.headerError s sub d i
  · intro s ty body s' fs ih hlt
    rw [List.foldl_cons, ← C18_received_counted_once U s i ty body hlt]
    exact ih (by rw [(frm_dispatch U 0 i s ty body).len]; exact hlt)

end Yabgp

#print axioms Yabgp.C18_received_counted_once
#print axioms Yabgp.C18_sent_counted_once
#print axioms Yabgp.C18_increments_are_single
#print axioms Yabgp.C18_received_cumulative
