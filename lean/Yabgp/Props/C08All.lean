/-
  C08 — umbrella module for the registry (`module`: the proof audit imports this one): the core theorems
  (Props/C08.lean: header, OPEN, UPDATE with the standard attributes, IPv6 unicast / labeled / VPN MP attributes,
  NOTIFICATION, KEEPALIVE, ROUTE-REFRESH, generated flag table, witnesses of the repaired defects) and the parts
  over the other models: EVPN and IPv4 flow specification (C08b), SR policy NLRI / PMSI / tunnel encapsulation /
  IPv6 flow specification (C08c, Model/Construct), extended communities (C08d, Model/ExtComm.lean).
-/
import Yabgp.Props.C08
import Yabgp.Props.C08b
import Yabgp.Props.C08c
import Yabgp.Props.C08d
