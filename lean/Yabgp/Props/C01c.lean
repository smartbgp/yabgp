/-
  C01, timers of an ended session: no hold / keepalive timer is ever left running outside the states in which
  RFC 4271 has it running.  In every state reachable after the agent's start,
    Idle / Connect / Active   ⇒ neither the HoldTimer nor the KeepaliveTimer exists,
    OpenSent                  ⇒ the KeepaliveTimer does not exist,
  hence a hold-timer expiry can only be delivered in OpenSent / OpenConfirm / Established and a keepalive-timer
  expiry only in OpenConfirm / Established.

  A `Move` (Lemmas/TimerMoves.lean) keeps the invariant, and every action is one except two that assign the FSM state
  without touching the timers: `connOk` (FSM state := Connect, whatever it was), which is never a `Move` and is read
  off `connOk_cases`, and `dropEstab` (state := Idle when the closed protocol is the established one), which is a `Move`
  under a hypothesis.  For these the reachable-state invariants `Heal` / `One` of C02 / C12 show that the old state was
  not a session state (connOk: an attempt in flight excludes a live tracked connection) or that the closed protocol is
  not the established one (connLost of a connection we closed ourselves).
-/
import Yabgp.Props.C01b
import Yabgp.Lemmas.TimerMoves

namespace Yabgp
open Sess

variable (U : Bool → Bytes → UpdClass)

/-- RFC 4271 8.2.2: the HoldTimer runs in OpenSent/OpenConfirm/Established only, the KeepaliveTimer in
    OpenConfirm/Established only -/
def NoStale (s : Sess) : Prop :=
  ((s.st = .idle ∨ s.st = .connect ∨ s.st = .active) → s.tm.hold = none ∧ s.tm.keepalive = none) ∧
  (s.st = .openSent → s.tm.keepalive = none)

def Tms (s s' : Sess) : Prop := s'.st = s.st ∧ s'.tm = s.tm

theorem Tms.refl (s : Sess) : Tms s s := ⟨rfl, rfl⟩
theorem Tms.trans {a b c : Sess} (h1 : Tms a b) (h2 : Tms b c) : Tms a c := ⟨h2.1.trans h1.1, h2.2.trans h1.2⟩

theorem NoStale.of_tms {s s' : Sess} (h : NoStale s) (ht : Tms s s') : NoStale s' := by
  unfold NoStale at *; rw [ht.1, ht.2]; exact h

theorem NoStale.of_eq {s s' : Sess} (h : NoStale s) (h1 : s'.st = s.st) (h2 : s'.tm.hold = s.tm.hold)
    (h3 : s'.tm.keepalive = s.tm.keepalive) : NoStale s' := by
  unfold NoStale at *; rw [h1, h2, h3]; exact h

theorem NoStale.of_clear {s : Sess} (h1 : s.tm.hold = none) (h2 : s.tm.keepalive = none) : NoStale s :=
  ⟨fun _ => ⟨h1, h2⟩, fun _ => h2⟩

theorem NoStale.of_session {s : Sess} (h : s.st = .openConfirm ∨ s.st = .established) : NoStale s := by
  unfold NoStale
  rcases h with h | h <;> simp [h]

theorem NoStale.of_openSent {s : Sess} (h : s.st = .openSent) (hk : s.tm.keepalive = none) : NoStale s := by
  unfold NoStale
  simp [h, hk]

theorem insess_or_resting (st : St) : Core.InSess st ∨ Resting st := by
  unfold Core.InSess Resting
  cases st <;> decide

theorem NoStale.keepalive_none {s : Sess} (h : NoStale s) (hs : s.st ≠ .openConfirm) (hs' : s.st ≠ .established) :
    s.tm.keepalive = none := by
  rcases insess_or_resting s.st with (o | o | o) | q
  · exact h.2 o
  · exact absurd o hs
  · exact absurd o hs'
  · exact (h.1 q).2

theorem NoStale.hold_none {s : Sess} (h : NoStale s) (hs : s.st = .idle ∨ s.st = .connect ∨ s.st = .active) :
    s.tm.hold = none := (h.1 hs).1

/-- `Move` is the relational form of the invariant: a timer survives into a state without it only if it was not running -/
theorem NoStale.of_move {s s' : Sess} (h : NoStale s) (m : Move s s') : NoStale s' := by
  rcases m with f | e
  · exact h.of_eq f.st f.hold f.ka
  · refine ⟨fun _ => ⟨?_, ?_⟩, fun hos => ?_⟩
    · rcases e.hold with h0 | ⟨r, h0⟩
      · exact h0
      · exact h0.trans (h.1 r).1
    · rcases e.ka with h0 | ⟨r | r, h0⟩
      · exact h0
      · exact h0.trans (h.1 r).2
      · exact h0.trans (h.2 r)
    · rcases e.st with r | r | r <;> rw [r] at hos <;> cases hos

theorem tms_connectTcp (s : Sess) : Tms s s.connectTcp := ⟨st_connectTcp s, tm_connectTcp s⟩

theorem tms_sendOpen (s : Sess) : Tms s s.sendOpen.1 := ⟨(sendOpen_fields s).1, (sendOpen_fields s).2.1⟩

theorem NoStale.of_frame {s s' : Sess} (h : NoStale s) (f : Frame s s') : NoStale s' := by
  cases f with
  | skip a b => exact h.of_tms ⟨a, b⟩
  | ended e => exact h.of_move (.ended e)
  | opened _ a => exact .of_session (Or.inl a)
  | restarted _ a => exact .of_session (Or.inr a)

theorem quiet_of_connecting {s : Sess} (hh : Core.Heal (core s)) (ho : Core.One (core s)) {c : Nat}
    (hlt : c < s.conns.length) (hc : (s.conn c).phase = .connecting) : Resting s.st := by
  rcases insess_or_resting s.st with hs | hs
  · -- the tracked connection of a session is up, hence live: it would be `c`
    obtain ⟨i, hp, _, hup⟩ := hh.sess hs
    have hn := norm_of_core hp hup
    cases ho.unique hlt hn.lt (.inl hc) (.inr hn.up)
    cases hc.symm.trans hn.up
  · exact hs

theorem quiet_of_disconnected {s : Sess} (hh : Core.Heal (core s)) {c : Nat}
    (hd : (s.conn c).disconnected = true) (he : s.estab = some c) : Resting s.st := by
  rcases insess_or_resting s.st with hs | hs
  · -- the established protocol of a session is the tracked connection, which we have not closed
    obtain ⟨i, hp, hes, hup⟩ := hh.sess hs
    cases he.symm.trans hes
    cases hd.symm.trans (norm_of_core hp hup).nd
  · exact hs

/-- **One step keeps the invariant**, in every state satisfying the reachable-state invariants: they exclude the two
    events that assign the FSM state behind the timers' back from a session state (see the head of the file). -/
theorem noStale_step (w : World) (e : Ev) (hen : enabled w.sess e = true)
    (hh : Core.Heal (core w.sess)) (ho : Core.One (core w.sess)) (h : NoStale w.sess) : NoStale (step U w e).sess := by
  have hl : ∀ c, e = .lost c → (w.sess.conn c).disconnected = true → w.sess.estab = some c → Resting w.sess.st :=
    fun c _ hd he => quiet_of_disconnected hh hd he
  cases e with
  | connOk c =>
    simp only [enabled, decide_eq_true_eq] at hen
    have hq := h.1 (quiet_of_connecting hh ho hen.1 hen.2)
    obtain ⟨_, _, hk, _, _, hc⟩ := connOk_cases (w.sess.withOuts []) c
    rcases hc with hc | hc
    · exact .of_openSent hc.1 (hk.trans hq.2)
    · exact .of_clear (hc.2.trans hq.1) (hk.trans hq.2)
  | chunk c d =>
    exact drain_rel U (R := fun s s' => NoStale s → NoStale s') c (fun _ => id) (fun h1 h2 h => h2 (h1 h))
      (fun s buf h => h.of_frame (frame_parseBuffer U s c buf)) _ _ _ (h.of_eq rfl rfl rfl)
  | advance dt => exact h.of_eq rfl rfl rfl
  | fire t =>
    cases t with
    | keepalive =>
      rcases fireKeepalive_cases (w.sess.withOuts []) with m | ⟨h1, _, _, h4, _, _, h5⟩
      · exact h.of_move (.ended ⟨m.st, m.hold, m.ka⟩)
      · have h1 : (step U w (.fire .keepalive)).sess.st = w.sess.st := h1
        by_cases hs : w.sess.st = .openConfirm ∨ w.sess.st = .established
        · exact .of_session (h1 ▸ hs)
        · have hk : (step U w (.fire .keepalive)).sess.tm.keepalive = none := h5.trans (if_neg fun c => hs c.1)
          exact ⟨fun r => ⟨h4.trans (h.1 (h1 ▸ r)).1, hk⟩, fun _ => hk⟩
    | _ => exact h.of_move (move_step U w _ nofun nofun nofun nofun hl)
  | _ => exact h.of_move (move_step U w _ nofun nofun nofun nofun hl)

theorem noStale_run (evs : List Ev) : ∀ (w : World), Core.Skel (core w.sess) → EnabledRun U w evs →
    NoStale w.sess → NoStale (run U w evs).sess :=
  run_induction U (skel_step U) (Q := fun w evs => NoStale w.sess → NoStale (run U w evs).sess) (fun _ _ h => h)
    (fun w e _ hen hk ih h => ih (noStale_step U w e hen hk.heal hk.one h)) evs

/-- **C01, timers.**  After the agent's start (the deferred automatic start or an operator start) and any sequence of
    enabled events - connection results, peer data in any segmentation, timer expiries, operator commands, every error
    path - no timer of an ended session is left running: in Idle, Connect and Active neither the hold timer nor the
    keepalive timer exists, and in OpenSent the keepalive timer does not exist. -/
theorem C01_no_stale_timers (cfg : Cfg) (e0 : Ev) (he0 : e0 = .boot ∨ e0 = .manualStart) (evs : List Ev)
    (hen : EnabledRun U (step U (bootWorld cfg) e0) evs) :
    NoStale (run U (bootWorld cfg) (e0 :: evs)).sess := by
  have hfirst : NoStale (step U (bootWorld cfg) e0).sess := by
    refine NoStale.of_move (.of_clear rfl rfl) (move_step U _ e0 ?_ ?_ ?_ ?_ ?_) <;> rcases he0 with rfl | rfl <;> nofun
  exact noStale_run U evs _ (skel_first U cfg e0 he0) hen hfirst

/-- consequence stated on the events: a hold or keepalive timer can only expire (the `fire` event is only enabled) in a
    state where RFC 4271 has it running -/
theorem C01_timer_expiry_states (cfg : Cfg) (e0 : Ev) (he0 : e0 = .boot ∨ e0 = .manualStart) (evs : List Ev)
    (hen : EnabledRun U (step U (bootWorld cfg) e0) evs) :
    let s := (run U (bootWorld cfg) (e0 :: evs)).sess
    (enabled s (.fire .hold) = true → s.st = .openSent ∨ s.st = .openConfirm ∨ s.st = .established) ∧
    (enabled s (.fire .keepalive) = true → s.st = .openConfirm ∨ s.st = .established) := by
  intro s
  have h : NoStale s := C01_no_stale_timers U cfg e0 he0 evs hen
  -- an expiry is only delivered for a timer that exists
  have running : ∀ t, enabled s (.fire t) = true → timerOf s.tm t ≠ none := fun t he hn => by
    simp only [enabled, hn] at he
    cases he
  refine ⟨fun he => (insess_or_resting s.st).resolve_right fun q => running .hold he (h.hold_none q), fun he => ?_⟩
  rcases insess_or_resting s.st with (o | o) | q
  · exact absurd (h.2 o) (running .keepalive he)
  · exact o
  · exact absurd (h.1 q).2 (running .keepalive he)

/-! ### non-vacuity -/

/-- NOTIFICATION (2,1) "unsupported version number", no data -/
def exNotifVersion : Bytes := marker ++ [0, 21, 3, 2, 1]

/-- the peer answers our OPEN with its own OPEN (OpenConfirm: both timers running) and then with NOTIFICATION (2,1):
    the session ends in Idle and both timers are gone; before the NOTIFICATION they were running -/
example :
    let evs : List Ev := [.connOk 0, .chunk 0 exOpen, .chunk 0 exNotifVersion]
    EnabledRun exU (step exU (bootWorld exCfg) .boot) evs ∧
    exOpenConfirm.sess.tm.hold = some 270 ∧ exOpenConfirm.sess.tm.keepalive = some 90 ∧
    (run exU (bootWorld exCfg) (.boot :: evs)).sess.st = .idle ∧
    (run exU (bootWorld exCfg) (.boot :: evs)).sess.tm.hold = none ∧
    (run exU (bootWorld exCfg) (.boot :: evs)).sess.tm.keepalive = none := by
  intro evs
  refine ⟨⟨by decide, by decide, by decide, trivial⟩, by decide, by decide, by decide, by decide, by decide⟩

/-- the connection is lost in OpenSent (hold timer running at the 4-minute limit): FSM.connection_failed stops the hold
    timer on its way through Active, connection_closed then resets the state to Idle -/
example :
    let evs : List Ev := [.connOk 0, .lost 0]
    EnabledRun exU (step exU (bootWorld exCfg) .boot) evs ∧
    exOpenSent.sess.tm.hold = some 720 ∧
    (run exU (bootWorld exCfg) (.boot :: evs)).sess.st = .idle ∧
    (run exU (bootWorld exCfg) (.boot :: evs)).sess.tm.hold = none ∧
    (run exU (bootWorld exCfg) (.boot :: evs)).sess.tm.keepalive = none := by
  intro evs
  refine ⟨⟨by decide, by decide, trivial⟩, by decide, by decide, by decide, by decide⟩

end Yabgp

#print axioms Yabgp.noStale_step
#print axioms Yabgp.noStale_run
#print axioms Yabgp.C01_no_stale_timers
#print axioms Yabgp.C01_timer_expiry_states
