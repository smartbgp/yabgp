/-
  C15 (part b) — the TLV list decoders are compositional, an unknown TLV between known ones changes nothing for
  the others, and the BGP-LS attribute decodes the same wherever it stands in the attribute list.

  Scope: BGP-LS NLRIs, descriptors, node-descriptor sub-TLVs, BGP-LS attribute TLVs and their nested sub-TLVs,
  Prefix-SID TLVs / sub-TLVs / sub-sub-TLVs, SR range entries and the fixed-stride lists (Model/Tlv.lean).
  All theorems are parametric in the per-TLV body decoder, so they cover every registered and every future TLV
  type at once.  Property theorems only; helper lemmas in Lemmas/TlvLemmas.lean and Lemmas/TlvOrder.lean.
-/
import Yabgp.Lemmas.TlvLemmas
import Yabgp.Lemmas.TlvOrder

namespace Yabgp
open Yabgp.Tlv

/-- a well-formed encoding for a loop shape and body decoder: a concatenation of whole TLVs (header of the
    shape's size, value exactly as long as the length field says) on each of which the body decoder succeeds -/
def Tlv.WellFormed {α ε : Type} (sh : Shape) (body : Bytes → Bytes → Except ε (Option α)) (a : Bytes) : Prop :=
  ∃ items : List (Bytes × Bytes),
    Whole sh items ∧ (∀ hv ∈ items, ∃ x, body hv.1 hv.2 = .ok x) ∧ a = enc items

/-- **general form**: whole TLVs in front of ANY byte string (well-formed or not, bodies decoding or not): the loop
    decodes them one by one and then behaves on the rest exactly as it would on the rest alone -/
theorem C15_tlv_append_general {α ε : Type} (sh : Shape) (body : Bytes → Bytes → Except ε (Option α))
    (items : List (Bytes × Bytes)) (hw : Whole sh items) (b : Bytes) :
    tlvRun sh body (enc items ++ b) = walkThen body items (tlvRun sh body b) :=
  tlvRun_enc_append sh body items hw b

/-- **C15, TLV containers.**  For well-formed `a` and ANY `b`: decoding `a ++ b` gives the elements of `a` followed
    by the elements of `b`, ends the way `b` alone ends (so errors of `b` are reported identically), and `a` alone
    decodes without error. -/
theorem C15_tlv_append {α ε : Type} (sh : Shape) (body : Bytes → Bytes → Except ε (Option α)) (a b : Bytes)
    (ha : WellFormed sh body a) :
    (tlvRun sh body a).stop = .done ∧
    (tlvRun sh body (a ++ b)).vals = (tlvRun sh body a).vals ++ (tlvRun sh body b).vals ∧
    (tlvRun sh body (a ++ b)).stop = (tlvRun sh body b).stop ∧
    (tlvRun sh body (a ++ b)).steps = (tlvRun sh body a).steps + (tlvRun sh body b).steps := by
  obtain ⟨items, hw, hok, rfl⟩ := ha
  obtain ⟨vs, hvs⟩ := walkThen_ok body items hok
  have h1 := tlvRun_enc_append sh body items hw b
  have h2 := tlvRun_enc_append sh body items hw []
  rw [hvs] at h1 h2
  simp only [List.append_nil, tlvRun_nil] at h2
  rw [h1, h2]
  simp only [Nat.add_zero, and_self]

/-- both sides well-formed: the concatenation is well-formed again (so the statement iterates to k-tuples) -/
theorem C15_tlv_wellformed_append {α ε : Type} (sh : Shape) (body : Bytes → Bytes → Except ε (Option α))
    (a b : Bytes) (ha : WellFormed sh body a) (hb : WellFormed sh body b) : WellFormed sh body (a ++ b) := by
  obtain ⟨xs, hwx, hokx, rfl⟩ := ha
  obtain ⟨ys, hwy, hoky, rfl⟩ := hb
  exact ⟨xs ++ ys, hwx.append hwy, List.forall_mem_append.mpr ⟨hokx, hoky⟩, (enc_append xs ys).symm⟩

/-- **a TLV inserted between well-formed `a` and anything**: the others decode to what they decoded to before;
    the inserted TLV contributes exactly its own element (`x = none`: nothing, when the loop skips the type) -/
theorem C15_tlv_insert {α ε : Type} (sh : Shape) (body : Bytes → Bytes → Except ε (Option α)) (a b h u : Bytes)
    (x : Option α) (ha : WellFormed sh body a)
    (hh : h.length = sh.hdr) (hl : sh.len h = u.length) (hx : body h u = .ok x) :
    (tlvRun sh body (a ++ (h ++ u) ++ b)).vals = (tlvRun sh body a).vals ++ x.toList ++ (tlvRun sh body b).vals ∧
    (tlvRun sh body (a ++ (h ++ u) ++ b)).stop = (tlvRun sh body b).stop := by
  -- `a` in front of the rest, then the inserted TLV in front of `b`
  obtain ⟨_, v1, s1, _⟩ := C15_tlv_append sh body a (h ++ u ++ b) ha
  have hi := tlvRun_item sh body h u b hh hl
  rw [hx] at hi
  rw [List.append_assoc, v1, s1, hi]
  exact ⟨(List.append_assoc ..).symm, rfl⟩

/-- every instance of the code: the bytes after the instance's preamble compose -/
theorem C15_instance_append {α ε : Type} (i : Instance) (_hi : i ∈ instances)
    (body : Bytes → Bytes → Except ε (Option α)) (pre a b : Bytes)
    (hp : pre.length = i.skip) (ha : WellFormed i.shape body a) :
    (i.run body (pre ++ a)).stop = .done ∧
    (i.run body (pre ++ (a ++ b))).vals = (i.run body (pre ++ a)).vals ++ (tlvRun i.shape body b).vals ∧
    (i.run body (pre ++ (a ++ b))).stop = (tlvRun i.shape body b).stop := by
  unfold Instance.run
  rw [← hp, List.drop_left, List.drop_left]
  obtain ⟨h1, h2, h3, _⟩ := C15_tlv_append i.shape body a b ha
  exact ⟨h1, h2, h3⟩

/-- **BGP-LS attribute** (LinkState.unpack): a TLV of a type no class is registered for, between well-formed
    TLVs and anything: rendered as `{'type': t, 'value': hex}`, the others unchanged - for every registry, every
    protocol id and every family of registered decoders -/
theorem C15_ls_attr_unknown_between {α ε : Type} (registered : List Nat) (pro : Option Nat)
    (plain : Nat → Bytes → Except ε α) (withPro : Nat → Bytes → Option Nat → Except ε α)
    (unknown : Nat → Bytes → α) (a b u : Bytes) (t : Nat)
    (ht : t < 65536) (hu : u.length < 65536) (hreg : t ∉ registered)
    (ha : WellFormed tlv22 (lsBody registered pro plain withPro unknown) a) :
    (lsUnpack registered pro plain withPro unknown (a ++ (hdr22 t u.length ++ u) ++ b)).vals =
      (lsUnpack registered pro plain withPro unknown a).vals ++ [unknown t u] ++
      (lsUnpack registered pro plain withPro unknown b).vals ∧
    (lsUnpack registered pro plain withPro unknown (a ++ (hdr22 t u.length ++ u) ++ b)).stop =
      (lsUnpack registered pro plain withPro unknown b).stop := by
  have hx : lsBody registered pro plain withPro unknown (hdr22 t u.length) u = .ok (some (unknown t u)) := by
    simp [lsBody, lsCall, tlv22_typ t u.length ht, hreg]
  exact C15_tlv_insert tlv22 (lsBody registered pro plain withPro unknown) a b (hdr22 t u.length) u
    (some (unknown t u)) ha (hdr22_length _ _) (tlv22_len t u.length hu) hx

/-- the same TLV decodes the same in front, in the middle or at the end: the protocol id and the registry are the
    only context a BGP-LS attribute TLV sees (nothing is carried from one iteration to the next) -/
theorem C15_ls_attr_append {α ε : Type} (registered : List Nat) (pro : Option Nat)
    (plain : Nat → Bytes → Except ε α) (withPro : Nat → Bytes → Option Nat → Except ε α)
    (unknown : Nat → Bytes → α) (a b : Bytes)
    (ha : WellFormed tlv22 (lsBody registered pro plain withPro unknown) a) :
    (lsUnpack registered pro plain withPro unknown (a ++ b)).vals =
      (lsUnpack registered pro plain withPro unknown a).vals ++
      (lsUnpack registered pro plain withPro unknown b).vals ∧
    (lsUnpack registered pro plain withPro unknown (a ++ b)).stop =
      (lsUnpack registered pro plain withPro unknown b).stop := by
  obtain ⟨_, h2, h3, _⟩ := C15_tlv_append tlv22 (lsBody registered pro plain withPro unknown) a b ha
  exact ⟨h2, h3⟩

/-- **BGP-LS NLRI list** (BGPLS.parse): an NLRI of an unknown type between well-formed NLRIs and anything is
    skipped - the list is the one decoded without it -/
theorem C15_nlri_unknown_skipped {α ε : Type} (parseNlri : Nat → Bytes → Except ε α) (a b u : Bytes) (t : Nat)
    (ht : t < 65536) (hu : u.length < 65536) (hk : t ∉ nlriKnown)
    (ha : WellFormed tlv22 (nlriBody parseNlri) a) :
    (tlvRun tlv22 (nlriBody parseNlri) (a ++ (hdr22 t u.length ++ u) ++ b)).vals =
      (tlvRun tlv22 (nlriBody parseNlri) (a ++ b)).vals ∧
    (tlvRun tlv22 (nlriBody parseNlri) (a ++ (hdr22 t u.length ++ u) ++ b)).stop =
      (tlvRun tlv22 (nlriBody parseNlri) (a ++ b)).stop := by
  have hx : nlriBody parseNlri (hdr22 t u.length) u = .ok none := by
    simp [nlriBody, tlv22_typ t u.length ht, hk]
  obtain ⟨v1, s1⟩ := C15_tlv_insert tlv22 (nlriBody parseNlri) a b (hdr22 t u.length) u none ha
    (hdr22_length _ _) (tlv22_len t u.length hu) hx
  obtain ⟨_, v2, s2, _⟩ := C15_tlv_append tlv22 (nlriBody parseNlri) a b ha
  rw [v1, s1, v2, s2]; simp

/-- **registry-dispatched loops without try/except** (BGPPrefixSID.unpack, SRv6L3Service.unpack,
    SRv6SIDInformation.unpack, and the nested sub-TLV loops of 1106/1107/1108/1162): a TLV whose type is not
    registered, between well-formed TLVs and anything -/
theorem C15_reg_unknown_between {α ε : Type} (sh : Shape) (registered : List Nat)
    (dec : Nat → Bytes → Except ε α) (unknown : Nat → Bytes → α) (a b h u : Bytes)
    (hh : h.length = sh.hdr) (hl : sh.len h = u.length) (hreg : sh.typ h ∉ registered)
    (ha : WellFormed sh (regBody sh registered dec unknown) a) :
    (tlvRun sh (regBody sh registered dec unknown) (a ++ (h ++ u) ++ b)).vals =
      (tlvRun sh (regBody sh registered dec unknown) a).vals ++ [unknown (sh.typ h) u] ++
      (tlvRun sh (regBody sh registered dec unknown) b).vals ∧
    (tlvRun sh (regBody sh registered dec unknown) (a ++ (h ++ u) ++ b)).stop =
      (tlvRun sh (regBody sh registered dec unknown) b).stop := by
  have hx : regBody sh registered dec unknown h u = .ok (some (unknown (sh.typ h) u)) := by
    simp [regBody, hreg]
  exact C15_tlv_insert sh (regBody sh registered dec unknown) a b h u _ ha hh hl hx

/-- the Prefix-SID attribute itself: any type other than 5 -/
theorem C15_prefix_sid_unknown_between {α ε : Type} (dec : Nat → Bytes → Except ε α) (unknown : Nat → Bytes → α)
    (a b u : Bytes) (t : Nat) (ht : t < 256) (hu : u.length < 65536) (h5 : t ≠ 5)
    (ha : WellFormed tlv12 (regBody tlv12 prefixSidRegistered dec unknown) a) :
    (tlvRun tlv12 (regBody tlv12 prefixSidRegistered dec unknown) (a ++ (hdr12 t u.length ++ u) ++ b)).vals =
      (tlvRun tlv12 (regBody tlv12 prefixSidRegistered dec unknown) a).vals ++ [unknown t u] ++
      (tlvRun tlv12 (regBody tlv12 prefixSidRegistered dec unknown) b).vals := by
  have := (C15_reg_unknown_between tlv12 prefixSidRegistered dec unknown a b (hdr12 t u.length) u
    (hdr12_length _ _) (tlv12_len t u.length hu)
    (by rw [tlv12_typ t u.length ht]; simp [prefixSidRegistered, h5]) ha).1
  rwa [tlv12_typ t u.length ht] at this

/-- **node descriptors** (BGPLS.parse_node_descriptor) build a dict: reading any key from the dict of `a ++ b` gives
    the value from `b` when `b` assigns the key, else the value from `a` -/
theorem C15_node_descriptor_dict {κ β ε : Type} [DecidableEq κ]
    (body : Bytes → Bytes → Except ε (Option (κ × β))) (a b : Bytes) (k : κ)
    (ha : WellFormed tlv22 body a) :
    pyGet k (tlvRun tlv22 body (a ++ b)).vals =
      match pyGet k (tlvRun tlv22 body b).vals with
      | some w => some w
      | none => pyGet k (tlvRun tlv22 body a).vals := by
  rw [(C15_tlv_append tlv22 body a b ha).2.1, pyGet_append]
  cases pyGet k (tlvRun tlv22 body b).vals <;> rfl

/-- **attribute order, BGP-LS part** (Update.parse_attributes as repaired, `if bgpls_attr is not None`).
    For an attribute list with distinct type codes that contains a LINK_STATE attribute with value `b`: whatever
    stands before and after it - in particular whether MP_REACH_NLRI comes earlier or later - the result is an
    error exactly when LinkState.unpack fails on `b` with the protocol id of the list's MP_REACH_NLRI, and otherwise
    the dictionary maps 29 to that decoding and every other code to what it maps to without the BGP-LS attribute. -/
theorem C15_ls_attr_position_irrelevant {β γ ε : Type} (lsDec : Option Nat → Bytes → Except ε γ)
    (pre post : List (Item β)) (b : Bytes)
    (hn : ((pre ++ Item.linkState b :: post).map Item.code).Nodup) :
    match lsDec (proOf (pre ++ post)) b with
    | .ok g =>
        ∃ d, parseAttrsLs false lsDec (pre ++ Item.linkState b :: post) = .ok d ∧
          pyGet 29 d = some (.ls g) ∧
          ∀ k, k ≠ 29 → pyGet k d = pyGet k ((pre ++ post).filterMap (plainOf (γ := γ)))
    | .error e =>
        ∃ part, parseAttrsLs false lsDec (pre ++ Item.linkState b :: post) = .error (e, part) := by
  -- what distinct codes give: 29 occurs on neither side, and the two sides share no code
  rw [List.map_append, List.map_cons, List.nodup_append] at hn
  obtain ⟨-, hpost, hdisj⟩ := hn
  have h29post : 29 ∉ post.map Item.code := (List.nodup_cons.mp hpost).1
  have h29pre : 29 ∉ pre.map Item.code := fun h => hdisj 29 h 29 List.mem_cons_self rfl
  have nolsPre : ∀ b', Item.linkState b' ∉ pre := fun b' hm => h29pre (List.mem_map_of_mem hm)
  have nolsPost : ∀ b', Item.linkState b' ∉ post := fun b' hm => h29post (List.mem_map_of_mem hm)
  rw [proOf, finalPro_append, List.filterMap_append, parseAttrsLs, paLoop_append, paLoop_noLs lsDec {} pre nolsPre]
  simp only [paLoop, paStep, List.nil_append]
  by_cases ht : truthy (finalPro none pre) = true
  · -- protocol id already known: decoded inside the loop; no second MP_REACH_NLRI can change it afterwards
    obtain ⟨v, p, hmp⟩ := truthy_finalPro_mem pre ht
    have nompPost : ∀ v' p', Item.mpReach v' p' ∉ post := fun v' p' hm =>
      hdisj 14 (List.mem_map_of_mem hmp) 14 (List.mem_cons_of_mem _ (List.mem_map_of_mem hm)) rfl
    rw [finalPro_noMp _ post nompPost, if_pos ht]
    cases hd : lsDec (finalPro none pre) b with
    | error e => exact ⟨_, rfl⟩
    | ok g =>
      simp only [paLoop_noLs lsDec _ post nolsPost, paFinish, List.append_assoc, List.singleton_append]
      exact ⟨_, rfl, pyGet_insert _ _ (29, Dec.ls g) (plain_keys_sub post 29 h29post)⟩
  · -- not known yet: deferred, decoded after the loop with the final protocol id
    rw [if_neg ht]
    simp only [paLoop_noLs lsDec _ post nolsPost, paFinish, Bool.false_and, Bool.false_eq_true, ↓reduceIte]
    cases hd : lsDec (finalPro (finalPro none pre) post) b with
    | error e => exact ⟨_, rfl⟩
    | ok g => exact ⟨_, rfl, by simpa only [List.append_nil] using pyGet_insert _ [] (29, Dec.ls g) List.not_mem_nil⟩

/-- ... and the right-hand sides do not depend on the order of the other attributes either: for two lists with
    distinct codes that are permutations of each other, protocol id and every dictionary read agree -/
theorem C15_ls_attr_context_perm {β γ : Type} (xs ys : List (Item β)) (hp : xs.Perm ys)
    (hn : (xs.map Item.code).Nodup) :
    proOf xs = proOf ys ∧
    ∀ k, pyGet k (xs.filterMap (plainOf (γ := γ))) = pyGet k (ys.filterMap (plainOf (γ := γ))) :=
  ⟨proOf_perm xs ys hp hn, fun k => pyGet_plain_perm xs ys hp hn k⟩

/-- KNOWN FINDING witness (the code BEFORE the repair, `if bgpls_attr:`): an empty BGP-LS attribute is decoded to
    `{29: []}` when MP_REACH_NLRI (with a protocol id) precedes it and silently dropped when it follows -/
theorem KF_C15_empty_ls_attr_depends_on_order :
    (parseAttrsLs (β := Unit) (ε := Unit) true (fun _ _ => .ok ([] : List Nat))
        [.mpReach () (some 2), .linkState []]).toOption.map (pyGet 29)
      = some (some (.ls []))
    ∧ (parseAttrsLs (β := Unit) (ε := Unit) true (fun _ _ => .ok ([] : List Nat))
        [.linkState [], .mpReach () (some 2)]).toOption.map (pyGet 29)
      = some none := by
  constructor <;> rfl

/-! ### non-vacuity -/

/-- two whole TLVs (node name 1026 "ab", an unknown type 9) are well-formed for a body that accepts everything,
    and for the BGP-LS attribute body with an empty registry -/
example : WellFormed tlv22 (fun h v => (.ok (some (tlv22.typ h, v)) : Except Unit (Option (Nat × Bytes))))
    (enc [(hdr22 1026 2, [97, 98]), (hdr22 9 1, [7])]) :=
  ⟨_, by unfold Whole; decide,
    by intro hv hm; exact ⟨_, rfl⟩, rfl⟩

example : WellFormed tlv22
    (lsBody (ε := Unit) [] none (fun _ _ => .error ()) (fun _ _ _ => .error ()) (fun t v => (t, v)))
    (enc [(hdr22 1026 2, [97, 98]), (hdr22 9 1, [7])]) :=
  ⟨_, by unfold Whole; decide,
    by intro hv hm; simp at hm; rcases hm with rfl | rfl <;> exact ⟨_, rfl⟩, rfl⟩

/-- the hypothesis of the order theorem is met by [ORIGIN, LINK_STATE, MP_REACH(pro 2), MED] -/
example : (([Item.other 1 (), Item.linkState [4, 2, 0, 0], Item.mpReach () (some 2), Item.other 4 ()]).map
    Item.code).Nodup := by decide

end Yabgp

#print axioms Yabgp.C15_tlv_append_general
#print axioms Yabgp.C15_tlv_append
#print axioms Yabgp.C15_tlv_wellformed_append
#print axioms Yabgp.C15_tlv_insert
#print axioms Yabgp.C15_instance_append
#print axioms Yabgp.C15_ls_attr_unknown_between
#print axioms Yabgp.C15_ls_attr_append
#print axioms Yabgp.C15_nlri_unknown_skipped
#print axioms Yabgp.C15_reg_unknown_between
#print axioms Yabgp.C15_prefix_sid_unknown_between
#print axioms Yabgp.C15_node_descriptor_dict
#print axioms Yabgp.C15_ls_attr_position_irrelevant
#print axioms Yabgp.C15_ls_attr_context_perm
#print axioms Yabgp.KF_C15_empty_ls_attr_depends_on_order
