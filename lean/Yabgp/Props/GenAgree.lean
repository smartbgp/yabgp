/-
  Obligations that tie the constants the hand-written models use to the tables regenerated from
  /repo's source on every run (Yabgp/Gen/*.lean).  A changed constant, flag or table entry in the
  source breaks exactly one of these.
-/
import Yabgp.Gen.Constants
import Yabgp.Gen.AttrFlags
import Yabgp.Gen.Open
import Yabgp.Model.Open
import Yabgp.Model.Consts
import Yabgp.Model.Text

namespace Yabgp.GenAgree
open Yabgp.Gen

theorem attr_codes :
    [Const.BGPTYPE_ORIGIN, Const.BGPTYPE_AS_PATH, Const.BGPTYPE_NEXT_HOP, Const.BGPTYPE_MULTI_EXIT_DISC,
     Const.BGPTYPE_LOCAL_PREF, Const.BGPTYPE_ATOMIC_AGGREGATE, Const.BGPTYPE_AGGREGATOR,
     Const.BGPTYPE_COMMUNITIES, Const.BGPTYPE_ORIGINATOR_ID, Const.BGPTYPE_CLUSTER_LIST,
     Const.BGPTYPE_MP_REACH_NLRI, Const.BGPTYPE_MP_UNREACH_NLRI, Const.BGPTYPE_EXTENDED_COMMUNITY,
     Const.BGPTYPE_NEW_AS_PATH, Const.BGPTYPE_NEW_AGGREGATOR, Const.BGPTYPE_PMSI_TUNNEL,
     Const.BGPTYPE_TUNNEL_ENCAPS_ATTR, Const.BGPTYPE_LINK_STATE, Const.BGPTYPE_LARGE_COMMUNITY,
     Const.BGPTYPE_BGP_PREFIX_SID]
    = [C.tOrigin, C.tAsPath, C.tNextHop, C.tMed, C.tLocalPref, C.tAtomicAgg, C.tAggregator, C.tCommunity,
       C.tOriginatorId, C.tClusterList, C.tMpReach, C.tMpUnreach, C.tExtCommunity, C.tAs4Path,
       C.tAs4Aggregator, C.tPmsi, C.tTunnelEncaps, C.tLinkState, C.tLargeCommunity, C.tPrefixSid] := by
  decide

/-- the attribute classes are keyed by the same codes as the dispatch in update.py -/
theorem attr_ids :
    [Attr.Origin_ID, Attr.ASPath_ID, Attr.NextHop_ID, Attr.MED_ID, Attr.LocalPreference_ID,
     Attr.AtomicAggregate_ID, Attr.Aggregator_ID, Attr.Community_ID, Attr.OriginatorID_ID,
     Attr.ClusterList_ID, Attr.LargeCommunity_ID, Attr.ExtCommunity_ID, Attr.MpReachNLRI_ID,
     Attr.MpUnReachNLRI_ID]
    = [C.tOrigin, C.tAsPath, C.tNextHop, C.tMed, C.tLocalPref, C.tAtomicAgg, C.tAggregator, C.tCommunity,
       C.tOriginatorId, C.tClusterList, C.tLargeCommunity, C.tExtCommunity, C.tMpReach, C.tMpUnreach] := by
  decide

theorem attr_flags :
    [Attr.Origin_FLAG, Attr.ASPath_FLAG, Attr.NextHop_FLAG, Attr.MED_FLAG, Attr.LocalPreference_FLAG,
     Attr.AtomicAggregate_FLAG, Attr.Aggregator_FLAG, Attr.Community_FLAG, Attr.OriginatorID_FLAG,
     Attr.ClusterList_FLAG, Attr.LargeCommunity_FLAG, Attr.ExtCommunity_FLAG, Attr.MpReachNLRI_FLAG,
     Attr.MpUnReachNLRI_FLAG, Attr.EXTENDED_LENGTH]
    = [C.fOrigin, C.fAsPath, C.fNextHop, C.fMed, C.fLocalPref, C.fAtomicAgg, C.fAggregator, C.fCommunity,
       C.fOriginatorId, C.fClusterList, C.fLargeCommunity, C.fExtCommunity, C.fMpReach, C.fMpUnreach,
       C.fExtLen] := by
  decide

theorem update_errors :
    [Const.ERR_MSG_UPDATE_MALFORMED_ATTR_LIST, Const.ERR_MSG_UPDATE_ATTR_LEN, Const.ERR_MSG_UPDATE_INVALID_ORIGIN,
     Const.ERR_MSG_UPDATE_INVALID_NEXTHOP, Const.ERR_MSG_UPDATE_OPTIONAL_ATTR,
     Const.ERR_MSG_UPDATE_INVALID_NETWORK_FIELD, Const.ERR_MSG_UPDATE_MALFORMED_ASPATH]
    = [C.eMalformedAttrList, C.eAttrLen, C.eInvalidOrigin, C.eInvalidNextHop, C.eOptionalAttr,
       C.eInvalidNetworkField, C.eMalformedAsPath] := by
  decide

theorem header_consts :
    [Const.HDR_LEN, Const.MAX_LEN, Const.MSG_OPEN, Const.MSG_UPDATE, Const.MSG_NOTIFICATION, Const.MSG_KEEPALIVE,
     Const.MSG_ROUTEREFRESH, Const.MSG_CISCOROUTEREFRESH]
    = [C.hdrLen, C.maxLen, C.msgOpen, C.msgUpdate, C.msgNotification, C.msgKeepalive, C.msgRouteRefresh,
       C.msgCiscoRouteRefresh] := by
  decide

theorem notification_codes :
    [Const.ERR_MSG_HDR, Const.ERR_MSG_OPEN, Const.ERR_MSG_UPDATE, Const.ERR_HOLD_TIMER_EXPIRED, Const.ERR_FSM,
     Const.ERR_CEASE, Const.ERR_MSG_HDR_CONN_NOT_SYNC, Const.ERR_MSG_HDR_BAD_MSG_LEN, Const.ERR_MSG_HDR_BAD_MSG_TYPE,
     Const.ERR_MSG_OPEN_UNSUP_VERSION, Const.ERR_MSG_OPEN_BAD_PEER_AS, Const.ERR_MSG_OPEN_BAD_BGP_ID,
     Const.ERR_MSG_OPEN_UNSUP_OPT_PARAM, Const.ERR_MSG_OPEN_UNACCPT_HOLD_TIME, Const.LARGER_HOLD_TIME]
    = [C.errHdr, C.errOpen, C.errUpdate, C.errHold, C.errFsm, C.errCease, C.hdrNotSync, C.hdrBadLen, C.hdrBadType,
       C.openBadVersion, C.openBadPeerAs, C.openBadBgpId, C.openUnsupOptParam, C.openBadHold, C.largeHoldTime] := by
  decide

/-- the decoder's name table -/
theorem well_known_int2str : Const.wellKnownInt2Str = Text.wellKnown := by rfl

/-- the encoder's reverse table holds the same values under the upper-cased names -/
theorem well_known_str2int :
    Const.wellKnownStr2Int = Text.wellKnown.map (fun e => (e.1, String.ofList (Text.upper e.2.toList))) := by
  rfl

/-- the address families add-path is decoded for, and the send/receive codes -/
theorem open_tables : Open.afiSafiKeys = afiSafiKnown ∧ Open.addPathActKeys = [1, 2, 3] := by decide

/-- capability codes dispatched on by Open.parse / Capability.construct, as the model hard-codes them -/
theorem capability_codes :
    [Open.MULTIPROTOCOL_EXTENSIONS, Open.ROUTE_REFRESH, Open.EXTENDED_NEXT_HOP, Open.GRACEFUL_RESTART,
     Open.FOUR_BYTES_ASN, Open.ADD_PATH, Open.ENHANCED_ROUTE_REFRESH, Open.LLGR, Open.CISCO_ROUTE_REFRESH,
     Open.CISCO_MULTISESSION_BGP, Const.VERSION] = [1, 2, 5, 64, 65, 69, 70, 71, 128, 131, 4] := by
  decide

end Yabgp.GenAgree
