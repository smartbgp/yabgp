/-
  C10, over whole histories: NOTHING ESCAPES.  After the agent's start, whatever the environment does - connection results,
  any bytes from the peer in any segmentation (malformed headers, unacceptable OPENs, messages in the wrong state, UPDATEs the
  decoder rejects or chokes on), timer expiries, operator commands - no step of the run produces the marker `Out.escaped`,
  which is how the model represents a Python exception leaving a Twisted callback (a NOTIFICATION that cannot be built, a
  send with no protocol object).  Props/C10.lean has the per-message statements; "after any input still in session or closed
  with the reconnect scheduled" is `C02_never_stuck` (Props/C02.lean), which holds for every history as well.

  Proof: the relation `NE` (Lemmas/NoEscape.lean) is one half of `Clean`, which every action preserves when the send helpers
  are called with the tracked connection up (`clean_step`, Props/C18b.lean), and the reachable-state invariants Heal / One
  provide that at every call site; the sub-codes Open.parse raises are single octets (`parseOpen_err`), so every
  NOTIFICATION answering a bad OPEN can be built.
-/
import Yabgp.Props.C18
import Yabgp.Props.C18b
import Yabgp.Props.C10

namespace Yabgp
open Sess

variable (U : Bool → Bytes → UpdClass)

theorem norm_of_heal' {s : Sess} (h : Core.Heal (core s)) (hs : InSession s) : ∃ i, Norm s i := norm_of_heal h hs

theorem ne_step (w : World) (e : Ev) (hen : enabled w.sess e = true)
    (hh : Core.Heal (core w.sess)) (ho : Core.One (core w.sess)) : NE (w.sess.withOuts []) (step U w e).sess :=
  (clean_step U w e hen hh ho).2

/-- the outputs are cleared before a step, so `NE` across it speaks of everything it emitted -/
theorem Sess.NE.outs {s s' : Sess} (h : NE (s.withOuts []) s') : ∀ o ∈ s'.outs, isEsc o = false := by
  obtain ⟨l, hl, hne⟩ := h
  rw [hl]
  exact hne

theorem no_escape_run (evs : List Ev) : ∀ (w : World), Core.Heal (core w.sess) → Core.One (core w.sess) → Core.Pend (core w.sess) →
    EnabledRun U w evs → ∀ o ∈ runOuts U w evs, isEsc o = false :=
  fun w hh ho hp =>
    run_induction U (one_heal_step U) (Q := fun w evs => ∀ o ∈ runOuts U w evs, isEsc o = false)
      (fun _ _ _ h => nomatch h)
      (fun w e _ hen hk ih o hmem => (List.mem_append.1 hmem).elim ((ne_step U w e hen hk.2 hk.1.1).outs o) (ih o))
      evs w ⟨⟨ho, hp⟩, hh⟩

theorem C10_never_escapes (cfg : Cfg) (e0 : Ev) (he0 : e0 = .boot ∨ e0 = .manualStart) (evs : List Ev)
    (hen : EnabledRun U (step U (bootWorld cfg) e0) evs) :
    Out.escaped ∉ runOuts U (bootWorld cfg) (e0 :: evs) := by
  intro hmem
  have hk := skel_first U cfg e0 he0
  have : isEsc .escaped = false :=
    (List.mem_append.1 hmem).elim ((quiet_start U _ e0 he0).ne.outs _) (no_escape_run U evs _ hk.heal hk.one hk.pend hen _)
  cases this

/-- **At most one report per message, cumulative over a chunk**: after the receive loop has run over any buffer, the
    number of reports handed to the application (decoded message or malformed-UPDATE report) grew by at most the number of
    frames the loop dispatched - whatever the frames were and whatever the state machine did in reaction. -/
theorem C10_reports_le_frames (i : Nat) : ∀ (fuel : Nat) (s : Sess) (buf : Bytes),
    reports (drain U fuel s i buf).1.outs ≤ reports s.outs + (dispatched U fuel s i buf).length := by
  refine drain_ind U i (Q := fun s s' fs => reports s'.outs ≤ reports s.outs + fs.length) (fun _ => Nat.le_refl _) ?_ ?_
  · exact fun s sub d => Nat.le_of_eq (reports_of_ext (reactive_nonReport.sends.headerError s sub d))
  · intro s ty body s' fs ih
    have := C10_one_report U s i ty body
    rw [List.length_cons]
    omega

/-- non-vacuity: a history in which the peer sends a header without the marker is enabled event by event, and it does
    make the agent send a NOTIFICATION (so a send helper was exercised) -/
example :
    let cfg : Cfg := { localAs := 65001, remoteAs := 65002, holdCfg := 180, retryT := 30, idleHoldT := 30, localId := 1, caps0 := {} }
    let evs : List Ev := [.connOk 0, .chunk 0 (List.replicate 19 0)]
    EnabledRun (fun _ _ => .good) (step (fun _ _ => .good) (bootWorld cfg) .boot) evs ∧
    wcount (runOuts (fun _ _ => .good) (bootWorld cfg) (.boot :: evs)) 0 3 = 1 := by
  intro cfg evs
  exact ⟨⟨by decide, by decide, trivial⟩, by decide⟩

end Yabgp

#print axioms Yabgp.C10_never_escapes
#print axioms Yabgp.C10_reports_le_frames
