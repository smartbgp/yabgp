/-
  C19 — Adj-RIB-In and the version counters track exactly the updates applied.
  Helper lemmas that do not speak of `view` live in Yabgp/Lemmas/RibLemmas.lean.

  Model: Yabgp/Model/Rib.lean (update_rib_in_ipv4, update_rib_out_ipv4, update_receive_verion,
  update_send_version, init_rib and their callers in _update_received / api/v1.py, as repaired by the C19
  `fix:` commit).  Specification: Yabgp/Spec/RibSpec.lean (finite maps, elementary route operations, number of
  table changes).  `abs t` is the finite map a dictionary denotes; `sideOf (t, v)` pairs it with a counter.
-/
import Yabgp.Lemmas.RibLemmas

namespace Yabgp.Rib
open RibSpec (Op Side SEv runOps changes)

/-- after update_rib_in_ipv4 the Adj-RIB-In denotes exactly the specified table: announced prefixes carry the
    UPDATE's attributes, withdrawn (and not re-announced) prefixes are absent, the rest is untouched -/
theorem C19_refines (s : State) (m : Msg) :
    abs (updateRibInIpv4 s m).ribIn = RibSpec.apply (abs s.ribIn) m.withdraw m.nlri m.attr :=
  (congrArg Side.tbl (inIpv4_updateRibInIpv4 s m)).trans (runOps_ipv4Ops _ _ _ _)

/-- the same for the Adj-RIB-Out kept by the REST layer -/
theorem C19_refines_out (s : State) (m : Msg) :
    abs (updateRibOutIpv4 s m).ribOut = RibSpec.apply (abs s.ribOut) m.withdraw m.nlri m.attr :=
  (congrArg Side.tbl (outIpv4_updateRibOutIpv4 s m)).trans (runOps_ipv4Ops _ _ _ _)

/-- after ANY sequence of UPDATEs the Adj-RIB-In is the in-order application of their withdrawals and
    announcements (the last announcement's attributes win, withdrawn prefixes are absent) -/
theorem C19_history (s : State) (msgs : List Msg) :
    abs (msgs.foldl updateRibInIpv4 s).ribIn =
      RibSpec.applyAll (abs s.ribIn) (msgs.map fun m => (m.withdraw, m.nlri, m.attr)) := by
  induction msgs generalizing s with
  | nil => rfl
  | cons m msgs ih => rw [List.foldl_cons, ih, C19_refines]; rfl

/-- update_rib_in_ipv4: receive_version['ipv4'] grows by the number of operations of the UPDATE that changed the
    Adj-RIB-In (new route, changed attributes, removal of a present route); no other counter or table moves -/
theorem C19_version_ipv4_in (s : State) (m : Msg) :
    (updateRibInIpv4 s m).recvVer.ipv4 =
        s.recvVer.ipv4 + changes (RibSpec.ipv4Ops m.withdraw m.nlri m.attr) (abs s.ribIn) ∧
    (updateRibInIpv4 s m).recvVer.flowspec = s.recvVer.flowspec ∧
    (updateRibInIpv4 s m).recvVer.srPolicy = s.recvVer.srPolicy ∧
    (updateRibInIpv4 s m).recvVer.mplsVpn = s.recvVer.mplsVpn ∧
    (updateRibInIpv4 s m).sendVer = s.sendVer ∧ (updateRibInIpv4 s m).ribOut = s.ribOut :=
  ⟨congrArg Side.ver (inIpv4_updateRibInIpv4 s m), rfl, rfl, rfl, rfl, rfl⟩

/-- update_rib_out_ipv4: the same for send_version['ipv4'] and the Adj-RIB-Out -/
theorem C19_version_ipv4_out (s : State) (m : Msg) :
    (updateRibOutIpv4 s m).sendVer.ipv4 =
        s.sendVer.ipv4 + changes (RibSpec.ipv4Ops m.withdraw m.nlri m.attr) (abs s.ribOut) ∧
    (updateRibOutIpv4 s m).sendVer.flowspec = s.sendVer.flowspec ∧
    (updateRibOutIpv4 s m).sendVer.srPolicy = s.sendVer.srPolicy ∧
    (updateRibOutIpv4 s m).sendVer.mplsVpn = s.sendVer.mplsVpn ∧
    (updateRibOutIpv4 s m).recvVer = s.recvVer ∧ (updateRibOutIpv4 s m).ribIn = s.ribIn :=
  ⟨congrArg Side.ver (outIpv4_updateRibOutIpv4 s m), rfl, rfl, rfl, rfl, rfl⟩

/-- update_receive_verion: the flowspec and VPNv4 dictionaries are the in-order application of the MP_REACH rules
    and then the MP_UNREACH keys of their family, each counter grows by the number of changes of its dictionary;
    the IPv4 and sr-policy counters, the IPv4 tables and the whole sent side do not move -/
theorem C19_version_received (s : State) (m : Msg) :
    abs (updateReceiveVersion s m).fsRecv = runOps m.fsOps (abs s.fsRecv) ∧
    (updateReceiveVersion s m).recvVer.flowspec = s.recvVer.flowspec + changes m.fsOps (abs s.fsRecv) ∧
    abs (updateReceiveVersion s m).vpnRecv = runOps m.vpnOps (abs s.vpnRecv) ∧
    (updateReceiveVersion s m).recvVer.mplsVpn = s.recvVer.mplsVpn + changes m.vpnOps (abs s.vpnRecv) ∧
    (updateReceiveVersion s m).recvVer.ipv4 = s.recvVer.ipv4 ∧
    (updateReceiveVersion s m).recvVer.srPolicy = s.recvVer.srPolicy ∧
    (updateReceiveVersion s m).sendVer = s.sendVer ∧
    (updateReceiveVersion s m).ribIn = s.ribIn ∧ (updateReceiveVersion s m).ribOut = s.ribOut := by
  rw [updateReceiveVersion_eq]
  exact ⟨congrArg Side.tbl (sideOf_mpLoops _ _ _), congrArg Side.ver (sideOf_mpLoops _ _ _),
    congrArg Side.tbl (sideOf_mpLoops _ _ _), congrArg Side.ver (sideOf_mpLoops _ _ _), rfl, rfl, rfl, rfl, rfl⟩

/-- update_send_version: the same for the three sent-side dictionaries (flowspec, sr-policy, VPNv4) -/
theorem C19_version_sent (s : State) (m : Msg) :
    abs (updateSendVersion s m).fsSend = runOps m.fsOps (abs s.fsSend) ∧
    (updateSendVersion s m).sendVer.flowspec = s.sendVer.flowspec + changes m.fsOps (abs s.fsSend) ∧
    abs (updateSendVersion s m).vpnSend = runOps m.vpnOps (abs s.vpnSend) ∧
    (updateSendVersion s m).sendVer.mplsVpn = s.sendVer.mplsVpn + changes m.vpnOps (abs s.vpnSend) ∧
    abs (updateSendVersion s m).srSend = runOps m.srOps (abs s.srSend) ∧
    (updateSendVersion s m).sendVer.srPolicy = s.sendVer.srPolicy + changes m.srOps (abs s.srSend) ∧
    (updateSendVersion s m).sendVer.ipv4 = s.sendVer.ipv4 ∧
    (updateSendVersion s m).recvVer = s.recvVer ∧
    (updateSendVersion s m).ribIn = s.ribIn ∧ (updateSendVersion s m).ribOut = s.ribOut := by
  rw [updateSendVersion_eq]
  exact ⟨congrArg Side.tbl (sideOf_mpLoops _ _ _), congrArg Side.ver (sideOf_mpLoops _ _ _),
    congrArg Side.tbl (sideOf_mpLoops _ _ _), congrArg Side.ver (sideOf_mpLoops _ _ _),
    congrArg Side.tbl (sideOf_mpLoops _ _ _), congrArg Side.ver (sideOf_mpLoops _ _ _), rfl, rfl, rfl, rfl⟩

/-- the eight (dictionary, counter) pairs of a protocol object -/
inductive SideId where
  | inIpv4 | outIpv4 | fsRecv | vpnRecv | srRecv | fsSend | vpnSend | srSend
deriving DecidableEq, Repr

def sideAt : SideId → State → Side
  | .inIpv4 => inIpv4
  | .outIpv4 => outIpv4
  | .fsRecv => fsRecvSide
  | .vpnRecv => vpnRecvSide
  | .srRecv => srRecvSide
  | .fsSend => fsSendSide
  | .vpnSend => vpnSendSide
  | .srSend => srSendSide

/-- THE STATEMENT OF C19 as a table: what each event of a peering is for each (table, counter) pair.
    `ops l`: the table becomes the in-order application of `l`, the counter grows by the number of operations of
    `l` that changed the table (`ops []`: neither moves).  `clear`: table empty, counter kept.  `fresh`: a new
    protocol object, table empty and counter 0.
    With RIB maintenance off (`rib = false`) the IPv4 tables and counters are not maintained at all. -/
def view (rib : Bool) : SideId → Ev → SEv
  | .inIpv4, .recv m => .ops (if rib then m.ipv4Ops else [])
  | .outIpv4, .send m => .ops (if rib then m.ipv4Ops else [])
  | .fsRecv, .recv m => .ops m.fsOps
  | .vpnRecv, .recv m => .ops m.vpnOps
  | .fsSend, .send m => .ops m.fsOps
  | .vpnSend, .send m => .ops m.vpnOps
  | .srSend, .send m => .ops m.srOps
  | .inIpv4, .lost => .clear          -- init_rib
  | .outIpv4, .lost => .clear
  | _, .connect => .fresh             -- a new BGP object per connection
  | _, _ => .ops []                   -- everything else leaves the pair alone: an UPDATE never moves a pair of the
                                      -- other direction or of another family, a malformed UPDATE moves nothing, a
                                      -- received sr-policy UPDATE is only logged, connectionLost keeps the
                                      -- flowspec / sr / VPN dictionaries and all counters

/-- update_receive_verion alone is what a received UPDATE does when RIB maintenance is off -/
theorem sideAt_updateReceiveVersion (i : SideId) (s : State) (m : Msg) :
    sideAt i (updateReceiveVersion s m) = (sideAt i s).step (view false i (.recv m)) := by
  rw [updateReceiveVersion_eq]
  cases i with
  | fsRecv => exact sideOf_mpLoops _ _ _
  | vpnRecv => exact sideOf_mpLoops _ _ _
  | _ => rfl

theorem sideAt_updateSendVersion (i : SideId) (s : State) (m : Msg) :
    sideAt i (updateSendVersion s m) = (sideAt i s).step (view false i (.send m)) := by
  rw [updateSendVersion_eq]
  cases i with
  | fsSend => exact sideOf_mpLoops _ _ _
  | vpnSend => exact sideOf_mpLoops _ _ _
  | srSend => exact sideOf_mpLoops _ _ _
  | _ => rfl

/-- with RIB maintenance on, update_rib_in_ipv4 may be taken to run on every UPDATE: on one without prefixes
    it changes nothing -/
theorem updateReceived_true (s : State) (m : Msg) :
    updateReceived true s m = updateRibInIpv4 (updateReceiveVersion s m) m := by
  unfold updateReceived
  split
  · rfl
  · next h =>
    simp only [Bool.true_and, Bool.or_eq_true, Bool.not_eq_true', not_or, Bool.not_eq_false,
      List.isEmpty_iff] at h
    exact (updateRibInIpv4_nil _ m h.1 h.2).symm

/-- one event: every (table, counter) pair moves exactly as `view` prescribes — the table is the in-order
    application of the UPDATE's operations for that family and direction, and
    version' = version + (number of table changes); nothing else ever moves a counter -/
theorem C19_version (rib : Bool) (i : SideId) (s : State) (e : Ev) :
    sideAt i (step rib s e) = (sideAt i s).step (view rib i e) := by
  cases e with
  | recv m =>
    cases rib with
    | false => exact sideAt_updateReceiveVersion i s m
    | true =>
      -- update_rib_in_ipv4 moves the IPv4-in pair, which update_receive_verion left alone, and no other
      have h := sideAt_updateReceiveVersion i s m
      rw [step, updateReceived_true]
      cases i with
      | inIpv4 => exact (inIpv4_updateRibInIpv4 _ m).trans (congrArg (Side.step · (.ops m.ipv4Ops)) h)
      | _ => exact h
  | send m =>
    cases rib with
    | false => exact sideAt_updateSendVersion i s m
    | true =>
      -- update_send_version leaves alone the IPv4-out pair that update_rib_out_ipv4 has moved
      have h := sideAt_updateSendVersion i (updateRibOutIpv4 s m) m
      cases i with
      | outIpv4 => exact h.trans (outIpv4_updateRibOutIpv4 s m)
      | _ => exact h
  | recvMalformed => cases i <;> rfl
  | lost => cases i <;> rfl
  | connect => cases i <;> rfl

/-- any history (UPDATEs received and sent, malformed UPDATEs, session drops, reconnections, in any order):
    every table is the in-order application of the operations addressed to it since the last flush, and every
    counter is the number of table changes since the protocol object was created -/
theorem C19_history_all (rib : Bool) (i : SideId) (s : State) (evs : List Ev) :
    sideAt i (run rib s evs) = (sideAt i s).history (evs.map (view rib i)) := by
  unfold run Side.history
  induction evs generalizing s with
  | nil => rfl
  | cons e evs ih => rw [List.foldl_cons, ih, C19_version, List.map_cons, List.foldl_cons]

/-- init_rib (connectionMade, connectionLost) empties both IPv4 tables and touches no counter -/
theorem C19_flush (s : State) :
    (initRib s).ribIn = [] ∧ (initRib s).ribOut = [] ∧ abs (initRib s).ribIn = RibSpec.empty ∧
    abs (initRib s).ribOut = RibSpec.empty ∧ (initRib s).recvVer = s.recvVer ∧ (initRib s).sendVer = s.sendVer :=
  ⟨rfl, rfl, rfl, rfl, rfl, rfl⟩

/-- whatever happened before: right after the session drops, and right after the next session comes up, the
    Adj-RIB-In and the Adj-RIB-Out are empty -/
theorem C19_flush_history (rib : Bool) (s : State) (evs : List Ev) (e : Ev) (he : e = .lost ∨ e = .connect) :
    (run rib s (evs ++ [e])).ribIn = [] ∧ (run rib s (evs ++ [e])).ribOut = [] := by
  unfold run
  rw [List.foldl_append]
  rcases he with rfl | rfl <;> exact ⟨rfl, rfl⟩

/-- the counter stands still EXACTLY when the table is unchanged, for every UPDATE that does not name a route twice
    in contradictory ways; and for every UPDATE whatsoever an unchanged counter means an unchanged table -/
theorem C19_version_exact (sd : Side) (ops : List Op) :
    ((sd.step (.ops ops)).ver = sd.ver → (sd.step (.ops ops)).tbl = sd.tbl) ∧
    (Coherent ops → ((sd.step (.ops ops)).ver = sd.ver ↔ (sd.step (.ops ops)).tbl = sd.tbl)) := by
  constructor
  · intro h
    simp only [Side.step] at *
    exact changes_zero_runOps ops sd.tbl (by omega)
  · intro hc
    simp only [Side.step]
    rw [← changes_zero_iff ops sd.tbl hc]
    omega

/-- instance for the Adj-RIB-In: when the withdrawn and the announced prefixes of an UPDATE are disjoint,
    receive_version['ipv4'] moves iff the Adj-RIB-In changes -/
theorem C19_version_exact_ipv4 (s : State) (m : Msg) (hd : ∀ p ∈ m.withdraw, p ∉ m.nlri) :
    (updateRibInIpv4 s m).recvVer.ipv4 = s.recvVer.ipv4 ↔ abs (updateRibInIpv4 s m).ribIn = abs s.ribIn := by
  have h := inIpv4_updateRibInIpv4 s m
  have e := (C19_version_exact (inIpv4 s) m.ipv4Ops).2 (coherent_ipv4Ops _ _ _ hd)
  rw [← h] at e
  simpa [inIpv4, sideOf] using e

/-! ### the radix tree used for longest-match lookups covers the Adj-RIB-In -/

theorem C19_tree_covers (rib : Bool) (evs : List Ev) :
    TreeCovers (run rib State.init evs).ribIn (run rib State.init evs).tree := by
  refine foldl_inv (P := fun s : State => TreeCovers s.ribIn s.tree) (fun s e hs => ?_) evs _ (treeCovers_nil _)
  cases e with
  | recv m =>
    have hs' : TreeCovers (updateReceiveVersion s m).ribIn (updateReceiveVersion s m).tree := by
      rw [updateReceiveVersion_eq]; exact hs
    simp only [step, updateReceived]
    split
    · exact treeCovers_ribInLoops _ m hs'
    · exact hs'
  | recvMalformed => exact hs
  | send m =>
    rw [step, apiSend, updateSendVersion_eq]
    cases rib <;> exact hs
  | lost => exact treeCovers_nil _
  | connect => exact treeCovers_nil _

/-! ### non-vacuity: concrete histories (prefix ids 1 2 3, attribute ids 7 8, rule ids 40 41) -/

/-- announce 1,2 with attributes 7; re-announce 2 with 8 and withdraw 1 and an absent 3; same again (no change) -/
example :
    let m1 : Msg := { attr := 7, nlri := [1, 2] }
    let m2 : Msg := { attr := 8, nlri := [2], withdraw := [1, 3] }
    let s := run true State.init [.connect, .recv m1, .recv m2, .recv m2]
    s.ribIn = [(2, 8)] ∧ s.recvVer.ipv4 = 4 ∧ s.tree = [2] := by decide

/-- a flowspec rule announced twice with the same attributes counts once, its withdrawal counts once more, the
    withdrawal of an unknown rule does not count; a session drop keeps the counter and a reconnection starts at 0 -/
example :
    let a : Msg := { attr := 7, reach := some (.flowspec [(40, 9), (41, 9)]) }
    let w : Msg := { attr := 5, unreach := some (.flowspec [40, 42]) }
    let s := run true State.init [.connect, .recv a, .recv a, .recv w]
    s.fsRecv = [(41, 9)] ∧ s.recvVer.flowspec = 3 ∧ s.recvVer.ipv4 = 0 ∧
    (run true s [.lost]).recvVer.flowspec = 3 ∧ (run true s [.lost, .connect]).recvVer.flowspec = 0 := by decide

/-- the sent side: IPv4 through update_rib_out_ipv4, sr-policy and VPNv4 through update_send_version -/
example :
    let m : Msg := { attr := 7, nlri := [1], reach := some (.srPolicy 50) }
    let v : Msg := { attr := 8, reach := some (.mplsVpn [(60, 1)]), unreach := some (.mplsVpn [60]) }
    let s := run true State.init [.connect, .send m, .send m, .send v]
    s.ribOut = [(1, 7)] ∧ s.sendVer = { ipv4 := 1, flowspec := 0, srPolicy := 1, mplsVpn := 2 } ∧
    s.srSend = [(50, 7)] ∧ s.vpnSend = [] ∧ s.recvVer = {} := by decide

/-- the hypothesis of `C19_version_exact_ipv4` is satisfiable, and without it the equivalence really fails:
    withdrawing and re-announcing a present route with its old attributes moves the counter by two -/
example : ∀ p ∈ ({ attr := 7, nlri := [2], withdraw := [1] } : Msg).withdraw,
    p ∉ ({ attr := 7, nlri := [2], withdraw := [1] } : Msg).nlri := by decide

example :
    let s : State := { ribIn := [(1, 7)] }
    let m : Msg := { attr := 7, nlri := [1], withdraw := [1] }
    (updateRibInIpv4 s m).ribIn = s.ribIn ∧ (updateRibInIpv4 s m).recvVer.ipv4 = s.recvVer.ipv4 + 2 := by decide

end Yabgp.Rib

#print axioms Yabgp.Rib.C19_refines
#print axioms Yabgp.Rib.C19_refines_out
#print axioms Yabgp.Rib.C19_history
#print axioms Yabgp.Rib.C19_version_ipv4_in
#print axioms Yabgp.Rib.C19_version_ipv4_out
#print axioms Yabgp.Rib.C19_version_received
#print axioms Yabgp.Rib.C19_version_sent
#print axioms Yabgp.Rib.C19_version
#print axioms Yabgp.Rib.C19_history_all
#print axioms Yabgp.Rib.C19_flush
#print axioms Yabgp.Rib.C19_flush_history
#print axioms Yabgp.Rib.C19_version_exact
#print axioms Yabgp.Rib.C19_version_exact_ipv4
#print axioms Yabgp.Rib.C19_tree_covers
