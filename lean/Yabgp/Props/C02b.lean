/-
  C02 — the liveness half, for EVERY reachable state (Props/C02.lean has the safety half and liveness from the resting
  situation only).

  From every state reachable after the agent's start by any sequence of events the environment can produce - refused or
  timed-out connections, resets, protocol errors, malformed or unacceptable messages, timer expiries, operator stops and
  starts - in which the operator has not stopped the peer, there is a COOPERATIVE continuation (the peer drops a
  connection, accepts TCP, sends its valid OPEN and a KEEPALIVE; the clock ticks; due timers fire - nothing else) that
  reaches Established, within one idle-hold period of virtual time, with the hold time negotiated from the
  configuration and the peer's OPEN alone; and the session then stays up under keepalive traffic.

  The only assumption besides the peer's good behaviour is on the CONFIGURATION: the OPEN advertising the configured
  capabilities can be built (`constructOpen … cfg.caps0 = some _`).

  Proof: the reachable-state package `ReachInv` (Lemmas/LiveReach.lean), then a case analysis on the FSM state:
    Idle, idle-hold armed      wait (Lemmas/LiveWait.lean), then the timer fires, connect, OPEN, KEEPALIVE (Props/C02.lean);
    Idle, idle-hold not armed  a connection we closed is still owed its connectionLost (Heal); its arrival arms the timer;
    Connect                    some connection is live (CL): a pending attempt is accepted by the peer (no time passes),
                               an open one is dropped by the peer, which leads to Idle;
    OpenSent/OpenConfirm/Established  the peer drops the tracked connection (it restarts), which leads to Idle.
-/
import Yabgp.Props.C02
import Yabgp.Lemmas.LiveReach
import Yabgp.Lemmas.LiveWait

namespace Yabgp
open Sess

variable (U : Bool → Bytes → UpdClass)

/-- what a well-behaved peer, the clock and due timers do: the peer drops a connection (it restarts), accepts a TCP
    connection, sends its valid OPEN (`body`) or a KEEPALIVE; time passes; a due timer fires.  No refused connection, no
    operator command, no other data. -/
def Cooperative (body : Bytes) : Ev → Prop
  | .lost _ => True
  | .connOk _ => True
  | .chunk _ d => d = wireOf 1 body ∨ d = wireOf 4 []
  | .advance _ => True
  | .fire _ => True
  | _ => False

theorem Cooperative.of_wait {body : Bytes} {e : Ev} (h : WaitEv e) : Cooperative body e := by
  cases e <;> first | trivial | exact h.elim

def Reestablishes (body : Bytes) (w : World) (bound hold : Nat) : Prop :=
  ∃ (coop : List Ev) (k : Nat), (∀ e ∈ coop, Cooperative body e) ∧ EnabledRun U w coop ∧
    (run U w coop).sess.st = .established ∧ (run U w coop).sess.now ≤ bound ∧
    (run U w coop).sess.holdTime = hold ∧ Norm (run U w coop).sess k ∧ (run U w coop).rbuf k = []

theorem Reestablishes.mono {body : Bytes} {w : World} {b b' hold : Nat} (h : Reestablishes U body w b hold) (hb : b ≤ b') :
    Reestablishes U body w b' hold := by
  obtain ⟨coop, k, h1, h2, h3, h4, h5⟩ := h
  exact ⟨coop, k, h1, h2, h3, Nat.le_trans h4 hb, h5⟩

theorem Reestablishes.step {body : Bytes} {w : World} {bound hold : Nat} {e : Ev} (hen : enabled w.sess e = true)
    (hc : Cooperative body e) (h : Reestablishes U body (step U w e) bound hold) : Reestablishes U body w bound hold := by
  obtain ⟨coop, k, h1, h2, h⟩ := h
  exact ⟨e :: coop, k, List.forall_mem_cons.mpr ⟨hc, h1⟩, ⟨hen, h2⟩, h⟩

theorem Reestablishes.prepend {body : Bytes} {bound hold : Nat} (evs : List Ev) : ∀ {w : World},
    (∀ e ∈ evs, Cooperative body e) → EnabledRun U w evs → Reestablishes U body (run U w evs) bound hold →
    Reestablishes U body w bound hold := by
  induction evs with
  | nil => exact fun _ _ h => h
  | cons e r ih =>
    exact fun hc hen h =>
      .step U hen.1 (hc e (List.mem_cons_self ..)) (ih (fun e' he' => hc e' (List.mem_cons_of_mem _ he')) hen.2 h)

theorem now_connectionClosed (s : Sess) (p : Option Nat) : (s.connectionClosed p).now = s.now := by
  have hd : (s.dropEstab p).now = s.now := by
    unfold dropEstab
    split
    · split
      · rw [now_setSt]; rfl
      · rfl
    · rfl
  unfold connectionClosed
  split
  · unfold autoStart
    split
    · simp only [↓reduceIte]; exact hd
    · exact hd
  · exact hd

theorem now_connectionFailed (s : Sess) : s.connectionFailed.now = s.now := by
  unfold connectionFailed; split <;> simp [now_connectionClosed]

theorem now_connLost (s : Sess) (i : Nat) : (s.connLost i).now = s.now := by
  unfold connLost; split <;> simp [now_connectionClosed, now_connectionFailed, setPhase]

theorem lost_now_allow (w : World) (i : Nat) :
    (step U w (.lost i)).sess.now = w.sess.now ∧ (step U w (.lost i)).sess.allowAuto = w.sess.allowAuto := by
  refine ⟨now_connLost _ i, ?_⟩
  have h := Core.connLost_allow (core (w.sess.withOuts [])) i
  rw [← core_connLost] at h
  exact h

section
variable {cfg : Cfg} (body : Bytes) (m : OpenMsg)
  (hcfg : ∃ w0, constructOpen 4 cfg.localAs cfg.holdCfg cfg.localId cfg.caps0 = some w0)
  (hparse : parseOpen body = .ok m) (has : m.asn = cfg.remoteAs) (hh : ¬ (m.holdTime ≠ 0 ∧ m.holdTime < 3))
  (hlen : body.length + 19 ≤ 4096)
include hcfg hparse has hh hlen

omit hcfg in
theorem reaches_from_openSent (w : World) (hc : w.sess.cfg = cfg) (k : Nat) (hn : Norm w.sess k)
    (hst : w.sess.st = .openSent) (hrb : w.rbuf k = []) : Reestablishes U body w w.sess.now (min cfg.holdCfg m.holdTime) := by
  obtain ⟨e1, n1, b1, s1, t1, h1⟩ := open_step U hn hrb hst body m hparse (hc ▸ has) hh hlen
  obtain ⟨e2, n2, b2, s2, t2, h2⟩ := keepalive_step U n1 b1 (Or.inl s1)
  exact .step U e1 (Or.inl rfl) (.step U e2 (Or.inr rfl)
    ⟨[], k, nofun, trivial, s2, Nat.le_of_eq (t2.trans t1), hc ▸ h2.trans h1, n2, b2⟩)

theorem reaches_from_connecting (w : World) (hR : ReachInv cfg w) (j : Nat) (hj : j < w.sess.conns.length)
    (hph : (w.sess.conn j).phase = .connecting) :
    Reestablishes U body w w.sess.now (min cfg.holdCfg m.holdTime) := by
  obtain ⟨wr, hw⟩ := reach_openWire hR hcfg
  have hnd : (w.sess.conn j).disconnected = false := by
    have := hR.heal.fresh j (by rw [core_conn]; exact hph)
    rwa [core_conn] at this
  have hrb : w.rbuf j = [] := Classical.byContradiction fun hne => (hR.rb j hne).2 hph
  obtain ⟨h1, h2, h3, h4, -⟩ := connOk_to_openSent (w.sess.withOuts []) j wr hj hph hnd hw
  exact .step U (e := .connOk j) (decide_eq_true ⟨hj, hph⟩) trivial
    ((reaches_from_openSent U body m hparse has hh hlen (step U w (.connOk j)) (h4.trans hR.hcfg) j h2 h1 hrb).mono U
      (Nat.le_of_eq h3))

theorem reaches_from_idle_due (w : World) (hR : ReachInv cfg w) (D : Nat) (hI : IdleArmed w D) (hdue : D ≤ w.sess.now) :
    Reestablishes U body w w.sess.now (min cfg.holdCfg m.holdTime) := by
  obtain ⟨wr, hw⟩ := reach_openWire hR hcfg
  obtain ⟨en, hrb, hst, hn, hnow, hc, -⟩ := heal_to_openSent U w.sess w.rbuf wr hI.st hI.allow ⟨D, hI.ih, hdue⟩ hw
  have hfresh : w.rbuf w.sess.conns.length = [] :=
    Classical.byContradiction fun hne => Nat.lt_irrefl _ (hR.rb _ hne).1
  exact ((reaches_from_openSent U body m hparse has hh hlen _ (hc.trans hR.hcfg) _ hn hst (hrb ▸ hfresh)).mono U
    (Nat.le_of_eq hnow)).prepend U _ (by simp [Cooperative]) en

/-- Idle, idle-hold timer armed for `D`, which is at most one idle-hold period ahead (`TB`): wait until it is due (firing
    left-over timers on the way), then as above -/
theorem reaches_from_idle_armed (w : World) (hR : ReachInv cfg w) (D : Nat) (hI : IdleArmed w D) :
    Reestablishes U body w (w.sess.now + 3 * cfg.idleHoldT) (min cfg.holdCfg m.holdTime) := by
  obtain ⟨evs, c1, en1, hI1, hdue, hnow⟩ := wait_for_idle_hold U w D hI
  have hb := hR.tb D hI.ih
  rw [hR.hcfg] at hb
  exact ((reaches_from_idle_due U body m hcfg hparse has hh hlen _ (reach_run U evs w hR en1) D hI1 hdue).mono U
    (by omega)).prepend U evs (fun e he => .of_wait (c1 e he)) en1

theorem reaches_from_idle (w : World) (hR : ReachInv cfg w) (ha : w.sess.allowAuto = true) (hst : w.sess.st = .idle) :
    Reestablishes U body w (w.sess.now + 3 * cfg.idleHoldT) (min cfg.holdCfg m.holdTime) := by
  cases hih : w.sess.tm.idleHold with
  | some D => exact reaches_from_idle_armed U body m hcfg hparse has hh hlen w hR D ⟨hst, ha, hih⟩
  | none =>
    rcases hR.heal.idle ha hst with h | h
    · rw [show (core w.sess).idleHold = w.sess.tm.idleHold.isSome from rfl, hih] at h
      cases h
    · obtain ⟨c, hc, hph, hd⟩ := closeOwed_of_core h
      have hen : enabled w.sess (.lost c) = true := by simp [enabled, hc, hph]
      obtain ⟨hn, hal⟩ := lost_now_allow U w c
      obtain ⟨hst1, harm⟩ := C02_owed_close_arms_idle_hold (w.sess.withOuts []) c hst ha hd
      obtain ⟨D1, hD1⟩ := Option.isSome_iff_exists.mp harm
      exact .step U hen trivial (hn ▸ reaches_from_idle_armed U body m hcfg hparse has hh hlen _ (reach_step U w _ hen hR) D1
        ⟨hst1, hal.trans ha, hD1⟩)

/-- a connection is open - it is the tracked one (`One`), and the state is Connect after a failed send_open, OpenSent,
    OpenConfirm or Established: the peer drops it - connection_failed / connection_closed lead to Idle with the idle-hold
    timer armed -/
theorem reaches_from_tracked (w : World) (hR : ReachInv cfg w) (ha : w.sess.allowAuto = true) (i : Nat)
    (hi : i < w.sess.conns.length) (hph : (w.sess.conn i).phase = .connected) :
    Reestablishes U body w (w.sess.now + 3 * cfg.idleHoldT) (min cfg.holdCfg m.holdTime) := by
  obtain ⟨hp, he, hst⟩ := hR.one.tracked i (by simpa [core] using hi) (by rw [core_conn]; exact hph)
  have hen : enabled w.sess (.lost i) = true := by simp [enabled, hi, hph]
  obtain ⟨hn, hal⟩ := lost_now_allow U w i
  have hst1 := Core.connLost_idle (core (w.sess.withOuts [])) i hp he hst hR.heal.noActive
  rw [← core_connLost] at hst1
  exact .step U hen trivial (hn ▸ reaches_from_idle U body m hcfg hparse has hh hlen _ (reach_step U w _ hen hR) (hal.trans ha) hst1)

theorem reestablish (w : World) (hR : ReachInv cfg w) (ha : w.sess.allowAuto = true) :
    Reestablishes U body w (w.sess.now + 3 * cfg.idleHoldT) (min cfg.holdCfg m.holdTime) := by
  cases hst : w.sess.st
  case idle => exact reaches_from_idle U body m hcfg hparse has hh hlen w hR ha hst
  case connect =>
    obtain ⟨j, hj, hl⟩ := hR.cl hst
    have hj' : j < w.sess.conns.length := by simpa [core] using hj
    rw [Core.Live, core_conn] at hl
    rcases hl with hl | hl
    · exact (reaches_from_connecting U body m hcfg hparse has hh hlen w hR j hj' hl).mono U (Nat.le_add_right ..)
    · exact reaches_from_tracked U body m hcfg hparse has hh hlen w hR ha j hj' hl
  case active => exact absurd hst hR.heal.noActive
  all_goals
    obtain ⟨i, -, -, hup⟩ := hR.heal.sess (by simp [Core.InSess, core, hst])
    exact reaches_from_tracked U body m hcfg hparse has hh hlen w hR ha i (connUp_of_core hup).1 (connUp_of_core hup).2.1

end

end Yabgp


namespace Yabgp
open Sess

variable (U : Bool → Bytes → UpdClass)

/-- **C02, liveness: re-establishment from every reachable state.**  After the agent's start (its deferred automatic start,
    or an operator start before it) and ANY sequence `evs` of events the environment can produce - refused or timed-out
    connections, resets, protocol errors, malformed or unacceptable messages, timer expiries in any order, operator stops
    and starts - if the operator has not stopped the peer (`allowAuto`), then there is a continuation `coop` consisting only
    of what a well-behaved peer, the clock and due timers do (`Cooperative`) after which the session is Established, at most
    one idle-hold period (3 ticks per second) of virtual time later, with the hold time min(configured, proposed) - nothing
    of the earlier history enters.  The side condition `hcfg` is about the configuration alone: the OPEN advertising the
    configured capabilities is encodable. -/
theorem C02_reestablishes (cfg : Cfg) (e0 : Ev) (he0 : e0 = .boot ∨ e0 = .manualStart) (evs : List Ev)
    (hen : EnabledRun U (step U (bootWorld cfg) e0) evs)
    (hallow : (run U (bootWorld cfg) (e0 :: evs)).sess.allowAuto = true)
    (hcfg : ∃ w0, constructOpen 4 cfg.localAs cfg.holdCfg cfg.localId cfg.caps0 = some w0)
    (body : Bytes) (m : OpenMsg) (hparse : parseOpen body = .ok m) (has : m.asn = cfg.remoteAs)
    (hh : ¬ (m.holdTime ≠ 0 ∧ m.holdTime < 3)) (hlen : body.length + 19 ≤ 4096) :
    ∃ coop : List Ev,
      (∀ e ∈ coop, Cooperative body e) ∧
      EnabledRun U (run U (bootWorld cfg) (e0 :: evs)) coop ∧
      (run U (run U (bootWorld cfg) (e0 :: evs)) coop).sess.st = .established ∧
      (run U (run U (bootWorld cfg) (e0 :: evs)) coop).sess.now ≤
        (run U (bootWorld cfg) (e0 :: evs)).sess.now + 3 * cfg.idleHoldT ∧
      (run U (run U (bootWorld cfg) (e0 :: evs)) coop).sess.holdTime = min cfg.holdCfg m.holdTime := by
  have hR := reach_of_run U cfg e0 he0 evs hen
  obtain ⟨coop, k, h1, h2, h3, h4, h5, _, _⟩ :=
    reestablish U body m hcfg hparse has hh hlen (run U (bootWorld cfg) (e0 :: evs)) hR hallow
  exact ⟨coop, h1, h2, h3, h4, h5⟩

/-- **…and then stays up.**  The continuation of `C02_reestablishes` ends Established on an up, tracked connection `k` with
    an empty receive buffer, so that (`C02_stays_established`) every further run of keepalive traffic on `k` - our keepalive
    timer, the peer's KEEPALIVEs, the clock - leaves the session Established. -/
theorem C02_reestablishes_and_stays_up (cfg : Cfg) (e0 : Ev) (he0 : e0 = .boot ∨ e0 = .manualStart) (evs : List Ev)
    (hen : EnabledRun U (step U (bootWorld cfg) e0) evs)
    (hallow : (run U (bootWorld cfg) (e0 :: evs)).sess.allowAuto = true)
    (hcfg : ∃ w0, constructOpen 4 cfg.localAs cfg.holdCfg cfg.localId cfg.caps0 = some w0)
    (body : Bytes) (m : OpenMsg) (hparse : parseOpen body = .ok m) (has : m.asn = cfg.remoteAs)
    (hh : ¬ (m.holdTime ≠ 0 ∧ m.holdTime < 3)) (hlen : body.length + 19 ≤ 4096) :
    ∃ (coop : List Ev) (k : Nat),
      (∀ e ∈ coop, Cooperative body e) ∧
      EnabledRun U (run U (bootWorld cfg) (e0 :: evs)) coop ∧
      (run U (run U (bootWorld cfg) (e0 :: evs)) coop).sess.st = .established ∧
      (run U (run U (bootWorld cfg) (e0 :: evs)) coop).sess.now ≤
        (run U (bootWorld cfg) (e0 :: evs)).sess.now + 3 * cfg.idleHoldT ∧
      (run U (run U (bootWorld cfg) (e0 :: evs)) coop).sess.holdTime = min cfg.holdCfg m.holdTime ∧
      ∀ later : List Ev, (∀ e ∈ later, KeepaliveTraffic k e) →
        EnabledRun U (run U (run U (bootWorld cfg) (e0 :: evs)) coop) later →
        (run U (run U (run U (bootWorld cfg) (e0 :: evs)) coop) later).sess.st = .established := by
  have hR := reach_of_run U cfg e0 he0 evs hen
  obtain ⟨coop, k, h1, h2, h3, h4, h5, h6, h7⟩ :=
    reestablish U body m hcfg hparse has hh hlen (run U (bootWorld cfg) (e0 :: evs)) hR hallow
  refine ⟨coop, k, h1, h2, h3, h4, h5, ?_⟩
  intro later hk hl
  exact (C02_stays_established U k later _ h3 h6 h7 hk hl).1

/-! ### non-vacuity -/

/-- the peer's OPEN of the example: version 4, AS 65002, hold time 90, identifier 10.0.0.2, no optional parameters -/
def exBody : Bytes := [4, 0xfd, 0xea, 0, 90, 10, 0, 0, 2, 0]

/-- a history that ends in Idle: the session is established, then the peer sends 19 octets that are not a BGP header -/
def exHistory : List Ev :=
  [.connOk 0, .chunk 0 (wireOf 1 exBody), .chunk 0 (wireOf 4 []), .chunk 0 (List.replicate 19 0)]

/-- the hypotheses of `C02_reestablishes` hold for the example configuration and this history … -/
example : ∃ coop : List Ev,
    (∀ e ∈ coop, Cooperative exBody e) ∧
    EnabledRun exU (run exU (bootWorld exCfg) (.boot :: exHistory)) coop ∧
    (run exU (run exU (bootWorld exCfg) (.boot :: exHistory)) coop).sess.st = .established ∧
    (run exU (run exU (bootWorld exCfg) (.boot :: exHistory)) coop).sess.now ≤
      (run exU (bootWorld exCfg) (.boot :: exHistory)).sess.now + 3 * exCfg.idleHoldT ∧
    (run exU (run exU (bootWorld exCfg) (.boot :: exHistory)) coop).sess.holdTime = min exCfg.holdCfg 90 :=
  C02_reestablishes exU exCfg .boot (Or.inl rfl) exHistory
    ⟨by decide, by decide, by decide, by decide, trivial⟩ (by decide) ⟨_, rfl⟩ exBody
    { version := 4, asn := 65002, holdTime := 90, bgpId := 167772162, caps := {} } (by simp [parseOpen, exBody]) rfl (by decide) (by decide)

/-- … and its conclusion, evaluated: the history leaves the agent Idle with the idle-hold timer armed 90 ticks ahead; the
    cooperative continuation "90 ticks pass, the timer fires, the peer accepts the new connection, sends OPEN and
    KEEPALIVE" is possible event by event and ends Established exactly one idle-hold period later with hold time
    min(180, 90) -/
example :
    let w := run exU (bootWorld exCfg) (.boot :: exHistory)
    let coop : List Ev := [.advance 90, .fire .idleHold, .connOk 1, .chunk 1 (wireOf 1 exBody), .chunk 1 (wireOf 4 [])]
    w.sess.st = .idle ∧ w.sess.allowAuto = true ∧ w.sess.tm.idleHold = some 90 ∧ w.sess.now = 0 ∧
    EnabledRun exU w coop ∧
    (run exU w coop).sess.st = .established ∧ (run exU w coop).sess.now = 90 ∧ (run exU w coop).sess.holdTime = 90 := by
  intro w coop
  refine ⟨by decide, by decide, by decide, by decide, ?_, by decide, by decide, by decide⟩
  exact ⟨by decide, by decide, by decide, by decide, by decide, trivial⟩

/-- a left-over timer in Idle is real: when the connection is lost in OpenSent, FSM.connection_failed re-arms the
    connect-retry timer (and cancels the large hold timer), and BGPPeering.connection_closed then sends
    the state machine to Idle - Idle with the connect-retry and the idle-hold timer armed.  The waiting schedule of
    `wait_for_idle_hold` (the clock advances to the first deadline, the left-over connect-retry timer fires and clears
    itself, the idle-hold timer fires) and the peer's good behaviour then re-establish the session. -/
example :
    let w := run exU (bootWorld exCfg) [.boot, .connOk 0, .lost 0]
    let coop : List Ev :=
      [.advance 90, .fire .retry, .fire .idleHold, .connOk 1, .chunk 1 (wireOf 1 exBody), .chunk 1 (wireOf 4 [])]
    w.sess.st = .idle ∧ w.sess.allowAuto = true ∧
    w.sess.tm = { retry := some 90, hold := none, keepalive := none, idleHold := some 90 } ∧
    EnabledRun exU w coop ∧
    (run exU w coop).sess.st = .established ∧ (run exU w coop).sess.now = 90 ∧ (run exU w coop).sess.holdTime = 90 ∧
    (run exU w coop).sess.tm.hold = some (90 + 3 * 90) := by
  intro w coop
  refine ⟨by decide, by decide, by decide, ?_, by decide, by decide, by decide, by decide⟩
  exact ⟨by decide, by decide, by decide, by decide, by decide, by decide, trivial⟩

end Yabgp

#print axioms Yabgp.C02_reestablishes
#print axioms Yabgp.C02_reestablishes_and_stays_up
#print axioms Yabgp.reestablish
#print axioms Yabgp.constructOpen_le
