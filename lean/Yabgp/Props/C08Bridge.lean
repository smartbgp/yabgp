/-
  C08 — bridge between the guarded constructors (Model/Construct/Guards.lean: the repaired
  code) and the round-trip theorems of C06 / C07, which are stated for the unguarded models: on the value spaces
  those theorems range over, the guards hold, so the guarded constructor IS the constructor the theorem talks
  about.
-/
import Yabgp.Props.C06
import Yabgp.Props.C07a
import Yabgp.Model.Construct.Guards

namespace Yabgp

theorem pathIdGuard_of_ok (addpath : Bool) (ps : List Pfx) (h : ∀ p ∈ ps, PfxOk addpath p) :
    pathIdGuard addpath ps = true := by
  cases addpath with
  | false => simp [pathIdGuard]
  | true =>
    simp only [pathIdGuard, Bool.not_true, Bool.false_or, List.all_eq_true]
    intro p hp
    obtain ⟨_, _, _, hpid⟩ := h p hp
    simp only [↓reduceIte] at hpid
    obtain ⟨pid, hpid, _⟩ := hpid
    simp [hpid]

/-- on the messages C06 quantifies over, the repaired `Update.construct` is the modelled one -/
theorem C08_bridge_update (asn4 addpath : Bool) (m : UpdMsg) (hv : ValidMsg asn4 addpath m) :
    constructUpdateR asn4 addpath m = constructUpdate asn4 addpath m := by
  unfold constructUpdateR
  rw [pathIdGuard_of_ok addpath m.nlri hv.nlri, pathIdGuard_of_ok addpath m.withdraw hv.withdraw]
  rfl

namespace Mp

theorem v4LenOk_of_pfxOk (p : MPfx) (h : PfxOk .inet p) : v4LenOk p = true := by
  obtain ⟨addr, len⟩ := p
  cases addr with
  | v4 a => simp only [PfxOk] at h; simp [v4LenOk, h.1, h.2.1]
  | v6 a => simp [PfxOk] at h

/-- on the values C07 quantifies over, the repaired `MpReachNLRI.construct` is the modelled one -/
theorem C08_bridge_reach (v : MpReachVal) (h : ReachOk v) : constructMpReachR v = constructMpReach v := by
  unfold constructMpReachR
  have hg : reachGuard v = true := by
    cases v with
    | ipv6Unicast nh ll rs =>
      obtain ⟨h1, h2, _, _⟩ := h
      have e1 : nh.isV6 = true := by cases nh <;> simp [IsV6, Ip.isV6] at h1 ⊢
      cases ll with
      | none => simp [reachGuard, e1]
      | some l =>
        have e2 : l.isV6 = true := by cases l <;> simp [IsV6, Ip.isV6] at h2 ⊢
        simp [reachGuard, e1, e2]
    | labeled af nh rs =>
      cases af with
      | inet6 => simp [reachGuard]
      | inet =>
        obtain ⟨_, _, h3⟩ := h
        simp only [reachGuard, List.all_eq_true]
        intro r hr
        exact v4LenOk_of_pfxOk r.pfx (h3 r hr).2.2.2.2.1
    | vpn af rd nh rs =>
      cases af with
      | inet6 => simp [reachGuard]
      | inet =>
        obtain ⟨_, _, h3⟩ := h
        simp only [reachGuard, List.all_eq_true]
        intro r hr
        exact v4LenOk_of_pfxOk r.pfx (h3 r hr).2.2.2.1
    | other a s => simp [reachGuard]
  simp [hg]

theorem C08_bridge_unreach (v : MpUnreachVal) (h : UnreachOk v) : constructMpUnreachR v = constructMpUnreach v := by
  unfold constructMpUnreachR
  have hg : unreachGuard v = true := by
    cases v with
    | vpn af rs =>
      cases af with
      | inet6 => simp [unreachGuard]
      | inet =>
        obtain ⟨_, h3⟩ := h
        simp only [unreachGuard, List.all_eq_true]
        intro r hr
        exact v4LenOk_of_pfxOk r.pfx (h3 r hr).2.2.2.1
    | ipv6Unicast rs => simp [unreachGuard]
    | labeled af rs => simp [UnreachOk] at h
    | labeledRaw af raw => simp [UnreachOk] at h
    | other a s => simp [UnreachOk] at h
  simp [hg]

end Mp
end Yabgp

#print axioms Yabgp.C08_bridge_update
#print axioms Yabgp.Mp.C08_bridge_reach
#print axioms Yabgp.Mp.C08_bridge_unreach
