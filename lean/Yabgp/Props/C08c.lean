/-
  C08, third part — constructor models of the construct-only families (Model/Construct/SrtePmsi.lean, Tunnel.lean,
  Flow.lean): SR policy NLRI inside MP_REACH_NLRI / MP_UNREACH_NLRI, PMSI tunnel attribute, tunnel encapsulation
  attribute, IPv6 flow specification.  Whatever they return walks.
-/
import Yabgp.Lemmas.WalkerLemmas
import Yabgp.Lemmas.WalkerTunnel
import Yabgp.Lemmas.WalkerFlow
import Yabgp.Model.Construct.SrtePmsi
import Yabgp.Gen.AttrFlags

namespace Yabgp
open Walker Mp Construct

theorem packedOk_length (a : Ip) (b : Bytes) (h : packedOk a = some b) : b.length = 4 ∨ b.length = 16 := by
  cases a <;> simp only [packedOk, Option.ite_none_right_eq_some, Option.some.injEq] at h <;>
    obtain ⟨_, rfl⟩ := h <;> simp

/-- the SR policy NLRI: 96 bits = distinguisher 4, color 4, IPv4 endpoint 4 -/
theorem srte_item (n : SrteNlri) (b : Bytes) (h : constructSrte n = some b) : Seq (srteItem 1) b := by
  unfold constructSrte at h
  split at h
  · simp only [Option.ite_none_right_eq_some, Option.some.injEq] at h
    obtain ⟨_, rfl⟩ := h
    refine Seq.single (by simp [be8]) (fun rest => ?_)
    simp only [be8, List.cons_append, List.nil_append, srteItem, show (u8 (12 * 8)).toNat = 96 from rfl,
      show (be32 n.distinguisher ++ be32 n.color ++ be32 _).length = 12 from rfl]
    rw [if_neg (by decide : ¬ (1 : Nat) = 2), if_pos rfl]
    exact skip_eq _ _ rfl
  · cases h

theorem nlriOk_srte (n : SrteNlri) (nl : Bytes) (hn : constructSrte n = some nl) : nlriOk 1 73 nl = true := by
  simp [nlriOk, (srte_item n nl hn).all]

/-- MP_REACH_NLRI (1, 73) -/
theorem C08c_srte_reach (cfg : Cfg) (nh : Option Ip) (n : SrteNlri) (w : Bytes)
    (h : constructSrteReach nh n = .ok w) : Seq (attrItem cfg) w := by
  unfold constructSrteReach at h
  split at h
  · cases h
  · split at h
    · rename_i nb nl hp hn
      exact seq_mpReach cfg 1 73 nb.length nb nl w (by decide) (by decide) rfl
        (by rcases packedOk_length _ nb hp with e | e <;> omega) (nlriOk_srte n nl hn) h
    · cases h

/-- MP_UNREACH_NLRI (1, 73) -/
theorem C08c_srte_unreach (cfg : Cfg) (wd : Option SrteNlri) (w : Bytes)
    (h : constructSrteUnreach wd = .ok w) : Seq (attrItem cfg) w := by
  unfold constructSrteUnreach at h
  split at h
  · cases h
  · rename_i n
    split at h
    · rename_i nl hn
      exact seq_mpUnreach cfg 1 73 nl w (by decide) (by decide) (nlriOk_srte n nl hn) h
    · cases h

/-- PMSI tunnel attribute: flags of an optional transitive attribute, flags 1, type 1, label 3, and for the
    one tunnel type the code can construct (6, ingress replication) an address of 4 or 16 octets -/
theorem C08c_pmsi (cfg : Cfg) (o : Overlay) (leaf ty : Nat) (label : Option Nat) (tid : Option Ip) (w : Bytes)
    (h : constructPmsi o leaf ty label tid = some w) : Seq (attrItem cfg) w := by
  unfold constructPmsi at h
  split at h
  · rename_i l t
    split at h
    · rename_i lb tb hl ht
      simp only [Option.ite_none_right_eq_some, Option.some.injEq] at h
      obtain ⟨⟨hleaf, rfl⟩, rfl⟩ := h
      have hlb : lb.length = 3 := by
        cases o <;> simp only [constructPmsiLabel, low24, Option.ite_none_right_eq_some, Option.some.injEq,
          reduceCtorEq] at hl <;> obtain ⟨_, rfl⟩ := hl <;> rfl
      have htb := packedOk_length t tb ht
      have hlen : (be8 leaf ++ be8 6 ++ lb ++ tb).length = 5 + tb.length := by simp [hlb]; omega
      refine seq_attr_short cfg 0xC0 22 _ (by decide) (by rw [hlen]; omega) (by decide) (by decide) ?_
      have g1 : (be8 leaf ++ be8 6 ++ lb ++ tb).getD 1 0 = u8 6 := by simp [be8]
      have h6 : (u8 6).toNat = 6 := rfl
      simp only [attrValueOk, pmsiOk, g1, h6, hlen]
      rcases htb with e | e <;> simp [e]
    · cases h
  · cases h

/-- tunnel encapsulation attribute (SR policy): flags of an optional transitive attribute with extended length,
    2-octet attribute length, one tunnel TLV (type 15, 2-octet length) whose value is a sequence of sub-TLVs -
    1-octet length below type 128, 2-octet length from 128 on - each with the fixed size of its type, segment
    lists being a reserved octet and a sequence of weight / segment sub-TLVs of fixed size (every kind the
    constructor has a branch for: MPLS label, IPv4 node, interface + IPv4 node, IPv4 local + remote address,
    each with and without SID) -/
theorem C08c_tunnel (cfg : Cfg) (p : Tunnel.Policy) (w : Bytes) (h : Tunnel.constructTunnel p = some w) :
    Seq (attrItem cfg) w := by
  unfold Tunnel.constructTunnel at h
  split at h
  · cases h
  · rename_i v hv
    simp only [Option.ite_none_right_eq_some, Option.some.injEq] at h
    obtain ⟨hlen, rfl⟩ := h
    have htl := seq_tlv22 tunnelOk 15 v (by decide) (by omega)
      (by simp only [tunnelOk, ↓reduceIte]; exact (seq_policyValue p v hv).all)
    have := seq_attr_ext cfg 0xD0 23 (be16 15 ++ be16 v.length ++ v) (by decide) (by simp; omega) (by decide)
      (by decide) (by simp only [attrValueOk]; simpa using htl.all)
    have e : (be16 15 ++ be16 v.length ++ v).length = v.length + 4 := by simp; omega
    rw [e] at this
    simpa [be8, u8] using this

/-- IPv6 flow specification (construct-only, as repaired): MP_REACH_NLRI for (2, 133) - every flow
    specification with its 1- or 2-octet length, prefix components `length, offset, ceil((length-offset)/8) octets`,
    operator lists ending with the end-of-list bit -/
theorem C08c_flowspec6_reach (cfg : Cfg) (nh : Option Ip) (rules : List Flow6.Rule6) (w : Bytes)
    (h : Flow6.constructReach6 nh rules = .ok w) : Seq (attrItem cfg) w := by
  unfold Flow6.constructReach6 at h
  split at h
  · rename_i nb nl hn hr
    split at h
    · cases h
    · refine seq_mpReach cfg 2 133 nb.length nb nl w (by decide) (by decide) rfl ?_
        (by simp [nlriOk, (seq_constructRules6 rules nl hr).all]) h
      unfold Flow6.nexthopBytes at hn
      split at hn
      · cases hn; decide
      all_goals
        simp only [Option.ite_none_right_eq_some, Option.some.injEq] at hn
        obtain ⟨_, rfl⟩ := hn
        simp
  · cases h

/-- the constants the models hard-code are the ones of the source -/
theorem C08c_generated_constants :
    [Gen.Attr.PMSITunnel_FLAG, Gen.Attr.PMSITunnel_ID, Gen.Attr.MpReachNLRI_FLAG, Gen.Attr.MpReachNLRI_ID,
     Gen.Attr.MpUnReachNLRI_FLAG, Gen.Attr.MpUnReachNLRI_ID, Gen.Attr.TunnelEncaps_FLAG, Gen.Attr.TunnelEncaps_ID]
    = [0xC0, 22, 0x90, 14, 0x90, 15, 0xD0, 23] := by decide

/-! non-vacuity -/

example : ∃ w, constructSrteReach (some (.v4 167772161)) { distinguisher := 0, color := 100, endpoint := .v4 167772169 } = .ok w ∧
    all (attrItem {}) w = true :=
  exists_of_ok (by decide) (fun w h => (C08c_srte_reach {} _ _ w h).all)

example : ∃ w, constructPmsi .vni 0 6 (some 10000) (some (.v4 67372036)) = some w ∧ all (attrItem {}) w = true :=
  exists_of_isSome (by decide) (fun w h => (C08c_pmsi {} _ _ _ _ _ w h).all)

set_option maxRecDepth 16000 in
example : ∃ w, Tunnel.constructTunnel
    { enc := some .new, k12 := some 100, k13 := some 25102, k14 := some 1, k15 := some 200,
      k129 := some [112, 111, 108], k6 := some (.endpoint 300 (some false) (.v4 16843009)),
      k128 := some [{ weight := some 10,
                      segs := some [.mpls { label := 2000 },
                                    .v4node (.v4 167837953) (some { label := 3000, tc := some 0, s := some 0, ttl := some 255 }),
                                    .v4node (.v4 167837953) none,
                                    .v4index 7 (.v4 167837953) none, .v4index 7 (.v4 167837953) (some { label := 16 }),
                                    .v4addr (.v4 1) (.v4 2) none, .v4addr (.v4 1) (.v4 2) (some { label := 17, s := some 1 }),
                                    .other 4] }] } = some w ∧ all (attrItem {}) w = true :=
  exists_of_isSome (by decide) (fun w h => (C08c_tunnel {} _ w h).all)

end Yabgp

#print axioms Yabgp.C08c_tunnel
#print axioms Yabgp.C08c_flowspec6_reach
#print axioms Yabgp.C08c_srte_reach
#print axioms Yabgp.C08c_srte_unreach
#print axioms Yabgp.C08c_pmsi
#print axioms Yabgp.C08c_generated_constants
