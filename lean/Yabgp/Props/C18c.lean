/-
  C18, sent side, histories that also contain REST requests: the UPDATE and ROUTE-REFRESH messages the agent sends on
  behalf of the REST API (send/update, send/route-refresh, send/bin_update) are counted exactly as they are written, so the
  equality "sent counter = messages of that kind written to the connection" of Props/C18b.lean holds for every history of
  environment events AND REST requests against the route table regenerated from /repo.  All five counters are covered.
  (send/bin_update writes the given octets as they are and counts one UPDATE; the equality therefore assumes that the
  octets posted there are one UPDATE message - `BinIsUpdate` - which is what the endpoint is for.)
-/
import Yabgp.Props.C18b
import Yabgp.Props.C16

namespace Yabgp
open Sess Rest C16

variable (U : Bool → Bytes → UpdClass)

theorem sentOf_incUpdates (st : Stats) (ty : Nat) : sentOf (incUpdates st) ty = sentOf st ty + if ty = 2 then 1 else 0 := by
  by_cases h : ty = 2
  · subst h; rfl
  · simp [sentOf, incUpdates, h]
theorem sentOf_incRouteRefresh (st : Stats) (ty : Nat) :
    sentOf (incRouteRefresh st) ty = sentOf st ty + if ty = 5 then 1 else 0 := by
  by_cases h : ty = 5
  · subst h; rfl
  · simp [sentOf, incRouteRefresh, h]

/-- write then count (the order of send_update / send_route_refresh) is balanced like count then write -/
theorem bal_write_count (s : Sess) (i t : Nat) (g : Stats → Stats) (w : Bytes) (hn : Norm s i)
    (hg : ∀ st ty, sentOf (g st) ty = sentOf st ty + if ty = t then 1 else 0) (hw : wireKind w = t) :
    Bal s ((s.writeOn i w).bumpSent i g) := by
  rw [writeOn_norm hn]
  have h := bal_count_write s i t g w hn.lt hg hw
  intro j ty
  have e1 : ((s.emit (.write i w)).bumpSent i g).outs = ((s.bumpSent i g).emit (.write i w)).outs := rfl
  have e2 : ((s.emit (.write i w)).bumpSent i g).conn j = ((s.bumpSent i g).emit (.write i w)).conn j := rfl
  rw [e1, e2]
  exact h j ty

theorem wireKind_update (asn4 ap : Bool) (m : UpdMsg) (w : Bytes) (h : constructUpdate asn4 ap m = some w) : wireKind w = 2 := by
  unfold constructUpdate at h
  simp only [Option.bind_eq_bind] at h
  cases hb : constructUpdateBody asn4 ap m with
  | none => simp [hb] at h
  | some body =>
    simp only [hb, Option.bind_some] at h
    exact wireKind_of_type (wireType_header _ _ _ (by decide) h) (by decide)

theorem wireKind_routeRefresh (ty afi res safi : Nat) (w : Bytes) (hty : ty = 5 ∨ ty = 128)
    (h : constructRouteRefresh ty afi res safi = some w) : wireKind w = 5 := by
  unfold constructRouteRefresh at h
  split at h
  · rename_i hr
    have ht := wireType_header ty _ w hr.2.2.2 h
    unfold wireKind
    rw [ht]
    rcases hty with rfl | rfl <;> simp
  · cases h

def BinIsUpdate (req : Request) : Prop :=
  ∀ o b, req.body = .obj o → o.bin = .bytes b → wireKind b = 2

theorem rrType_cases (r : CapaDict) (ty : Nat) (h : rrType r = some ty) : ty = 5 ∨ ty = 128 := by
  unfold rrType at h
  split at h
  · injection h with h; exact Or.inr h.symm
  · split at h
    · injection h with h; exact Or.inl h.symm
    · cases h

theorem bal_runView_send {s : Sess} {i : Nat} (hn : Norm s i) (v : View) (hv : v.isSend = true) (req : Request)
    (hbin : BinIsUpdate req) : Bal s (runView v req s).2 := by
  rcases runView_send_cases v hv req s with h | ⟨j, w, hp, hreq, h⟩
  · rw [h.2]; exact Bal.refl _
  · cases hp.symm.trans hn.proto
    rw [h]
    split
    · exact Bal.refl _
    · cases v <;> cases hv
      · obtain ⟨_, _, _, ty, _, _, _, _, hty, _, _, hc⟩ := hreq
        exact bal_write_count s i 5 _ w hn sentOf_incRouteRefresh
          (wireKind_routeRefresh ty _ _ _ w (rrType_cases _ _ hty) hc)
      · obtain ⟨_, _, hc⟩ := hreq
        exact bal_write_count s i 2 _ w hn sentOf_incUpdates (wireKind_update _ _ _ w hc)
      · obtain ⟨o, hb, hbn⟩ := hreq
        exact bal_write_count s i 2 _ w hn sentOf_incUpdates (hbin o w hb hbn)

theorem bal_handle (rc : RestCfg) (r : Route) (hr : r ∈ genRoutes) (req : Request) (hbin : BinIsUpdate req) (s : Sess)
    (hins : InSession s → ∃ i, Norm s i) : Bal s (handle rc r req s).2 := by
  rcases handle_cases rc r req s with ⟨e, _⟩ | ⟨e, _, hg⟩
  · rw [e]; exact Bal.refl _
  · rw [e, stripHead_snd]
    cases hv : (View.ofName r.view).isSend
    · rcases runView_state _ req s hv with e | ⟨_, e⟩ | ⟨_, e⟩ <;> rw [e]
      · exact Bal.refl _
      · exact (quiet_ev.manualStart s).bal
      · exact bal_manualStop (fun h => hins (Or.inr (Or.inr h)))
    · -- a send view is behind the gate: the session is Established and tracks a connection that is up
      obtain ⟨i, hn⟩ := hins (Or.inr (Or.inr (hg (C16_gate_table r hr hv).2)))
      exact bal_runView_send hn _ hv req hbin

/-- one action of the environment: an event of the session model or a REST request.  `actRun`, `ActsOk`, `actOuts` below
    are `run`, `EnabledRun`, `runOuts` (Lemmas/Run.lean) over such actions; a world `actRun` reaches from `bootWorld`
    under `ActsOk` satisfies `C16.Reach`, which keeps no list because C16 speaks of states only, while the count of
    this file needs the outputs of the whole history. -/
inductive Act
  | ev (e : Ev)
  | rest (r : Route) (req : Request)

def actStep (rc : RestCfg) (w : World) : Act → World
  | .ev e => step U w e
  | .rest r req => (restStep rc r req w).2

def actOk (w : World) : Act → Prop
  | .ev e => enabled w.sess e = true
  | .rest r req => r ∈ genRoutes ∧ BinIsUpdate req

def actRun (rc : RestCfg) (w : World) : List Act → World
  | [] => w
  | a :: as => actRun rc (actStep U rc w a) as

def ActsOk (rc : RestCfg) : World → List Act → Prop
  | _, [] => True
  | w, a :: as => actOk w a ∧ ActsOk rc (actStep U rc w a) as

def actOuts (rc : RestCfg) : World → List Act → List Out
  | _, [] => []
  | w, a :: as => (actStep U rc w a).sess.outs ++ actOuts rc (actStep U rc w a) as

theorem inv_actStep (rc : RestCfg) (w : World) (a : Act) (hok : actOk w a) (h : Core.Skel (core w.sess)) :
    Core.Skel (core (actStep U rc w a).sess) := by
  cases a with
  | ev e => exact skel_step U w e hok h
  | rest r req => exact core_restStep_inv Core.Skel rc r req w h.stepOutcome h

theorem bal_actStep (rc : RestCfg) (w : World) (a : Act) (hok : actOk w a)
    (hh : Core.Heal (core w.sess)) (ho : Core.One (core w.sess)) :
    Bal (w.sess.withOuts []) (actStep U rc w a).sess := by
  cases a with
  | ev e =>
    have hen : enabled w.sess e = true := hok
    exact bal_step U w e hen hh ho
  | rest r req =>
    have hh0 : Core.Heal (core (w.sess.withOuts [])) := hh
    exact bal_handle rc r hok.1 req hok.2 _ (norm_of_heal hh0)

theorem sent_actRun (rc : RestCfg) (acts : List Act) : ∀ (w : World), Core.Skel (core w.sess) → ActsOk U rc w acts → ∀ i ty,
    sentOf ((actRun U rc w acts).sess.conn i).sent ty = sentOf (w.sess.conn i).sent ty + wcount (actOuts U rc w acts) i ty := by
  induction acts with
  | nil => intro w _ _ i ty; rfl
  | cons a r ih =>
    intro w hk hok i ty
    have h1 := (bal_actStep U rc w a hok.1 hk.heal hk.one).sent i ty
    simp only [actRun, actOuts, wcount_append]
    rw [ih _ (inv_actStep U rc w a hok.1 hk) hok.2 i ty, h1]
    omega

/-- **C18, sent side, every history of events and REST requests.**  After the agent's start and any sequence of enabled
    environment events and REST requests (any route of the table, any method, credentials and body), the sent counter of
    every connection for every statistics key (Opens, Updates, Notifications, Keepalives, RouteRefresh) equals the number
    of messages of that kind written to that connection in the whole history. -/
theorem C18_sent_cumulative_rest (rc : RestCfg) (cfg : Cfg) (e0 : Ev) (he0 : e0 = .boot ∨ e0 = .manualStart)
    (acts : List Act) (hok : ActsOk U rc (step U (bootWorld cfg) e0) acts) (i ty : Nat) :
    sentOf ((actRun U rc (step U (bootWorld cfg) e0) acts).sess.conn i).sent ty =
      wcount ((step U (bootWorld cfg) e0).sess.outs ++ actOuts U rc (step U (bootWorld cfg) e0) acts) i ty := by
  have hrest := sent_actRun U rc acts _ (skel_first U cfg e0 he0) hok i ty
  -- the first step is the history of Props/C18b.lean with no further event
  have hfirst : sentOf ((step U (bootWorld cfg) e0).sess.conn i).sent ty =
      wcount ((step U (bootWorld cfg) e0).sess.outs ++ []) i ty := C18_sent_cumulative U cfg e0 he0 [] trivial i ty
  rw [List.append_nil] at hfirst
  rw [wcount_append, hrest, hfirst]

/-- non-vacuity: the session of Props/C16's example is established (one OPEN and one KEEPALIVE written), then a REST
    send/update with valid credentials writes one UPDATE: every piece of the theorem's conclusion evaluated -/
example :
    let acts : List Act := [.ev (.connOk 0), .ev (.chunk 0 C16Ex.peerOpen), .ev (.chunk 0 C16Ex.keepalive),
      .rest C16Ex.sendRoute (C16Ex.req (some ("admin", "admin")))]
    let w0 := step C16Ex.U (bootWorld C16Ex.cfg) .boot
    let outs := w0.sess.outs ++ actOuts C16Ex.U C16Ex.rc w0 acts
    wcount outs 0 1 = 1 ∧ wcount outs 0 4 = 1 ∧ wcount outs 0 2 = 1 ∧
    sentOf ((actRun C16Ex.U C16Ex.rc w0 acts).sess.conn 0).sent 2 = 1 ∧
    sentOf ((actRun C16Ex.U C16Ex.rc w0 acts).sess.conn 0).sent 1 = 1 := by
  decide

end Yabgp

#print axioms Yabgp.C18_sent_cumulative_rest
#print axioms Yabgp.bal_handle
