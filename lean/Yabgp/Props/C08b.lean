/-
  C08, second part — the EVPN constructors (Model/Mp/Evpn.lean, Model/Mp/EvfWrap.lean) behind the guards of the
  repaired code (Model/Construct/EvpnGuards.lean), and the IPv4 flow-specification constructor (Model/Mp/Flowspec.lean):
  whatever they return walks.
-/
import Yabgp.Lemmas.WalkerEvf
import Yabgp.Lemmas.WalkerFlow
import Yabgp.Lemmas.EvfRt

namespace Yabgp
open Walker Evpn

/-- `EVPN.construct(nlri_list)`: a sequence of `type, length, value` entries, every value with the fixed layout of
    its route type (RD 8, ESI 10, tag 4, MAC length 48, IP length 0 | 32 | 128 with that many bits, label
    entries of 3 octets, IP prefix routes of 34 or 58 octets) -/
theorem C08b_evpn_routes (rs : List Route) (b : Bytes) (h : constructRoutesR rs = some b) :
    all evpnItem b = true := by
  simp only [constructRoutesR, Option.ite_none_right_eq_some] at h
  exact (seq_constructRoutes rs h.1 b h.2).all

/-- `MpReachNLRI.construct` / `MpUnReachNLRI.construct` of these two families write the same header as the
    other families (`Mp.attrWrap`); only the type of the outcome differs -/
theorem attrWrap_of_attrHeader {code : Nat} {v w : Bytes} (h : Evf.attrHeader code v = .bytes w) :
    Mp.attrWrap code v = .ok w := by
  unfold Evf.attrHeader at h
  unfold Mp.attrWrap
  split at h
  · rename_i hlen
    cases h
    rw [if_pos hlen]
  · cases h

theorem ipPacked_lt (a : Evpn.Ip) (nb : Bytes) (hp : ipPacked a = some nb) : nb.length < 256 := by
  have := ipPacked_length a nb hp
  split at this <;> omega

/-- MP_REACH_NLRI for (25, 70): one well-formed path attribute -/
theorem C08b_evpn_reach (cfg : Cfg) (nh : Option Evpn.Ip) (rs : List Route) (w : Bytes)
    (h : Evf.constructReachR { nexthop := nh, nlri := .evpn rs } = .bytes w) : Seq (attrItem cfg) w := by
  unfold Evf.constructReachR at h
  split at h
  · rename_i hg
    simp only [Evf.constructReach] at h
    split at h
    · cases h
    · split at h
      · rename_i nb nl hp hr
        exact seq_mpReach cfg 25 70 nb.length nb nl w (by decide) (by decide) rfl (ipPacked_lt _ nb hp)
          (by simp [nlriOk, (seq_constructRoutes rs hg nl hr).all]) (attrWrap_of_attrHeader h)
      · cases h
  · cases h

/-- MP_UNREACH_NLRI for (25, 70) -/
theorem C08b_evpn_unreach (cfg : Cfg) (rs : List Route) (w : Bytes)
    (h : Evf.constructUnreachR (.evpn rs) = .bytes w) : Seq (attrItem cfg) w := by
  unfold Evf.constructUnreachR at h
  split at h
  · rename_i hg
    simp only [Evf.constructUnreach] at h
    split at h
    · cases h
    · cases h
    · rename_i nl _ hr
      exact seq_mpUnreach cfg 25 70 nl w (by decide) (by decide)
        (by simp [nlriOk, (seq_constructRoutes rs hg nl hr).all]) (attrWrap_of_attrHeader h)
  · cases h

/-! ### IPv4 flow specification (Model/Mp/Flowspec.lean, as repaired: prefix lengths within 0..32) -/

/-- `IPv4FlowSpec.construct(value)`: a sequence of flow specifications, each with a 1-octet length below 240 and
    the 2-octet form 0xfnnn from there on, whose components are prefixes of ceil(len/8) octets and operator lists
    of `operator, value of 1 << len octets` items ending - and only ending - with the end-of-list bit -/
theorem C08b_flowspec_rules (rules : List Flowspec.Rule) (b : Bytes) (h : Flowspec.constructRulesR rules = some b) :
    all (flowItem false) b = true := by
  simp only [Flowspec.constructRulesR, Option.ite_none_right_eq_some] at h
  exact (seq_constructRules rules h.1 b h.2).all

/-- MP_REACH_NLRI for (1, 133) -/
theorem C08b_flowspec_reach (cfg : Cfg) (nh : Option Evpn.Ip) (rules : List Flowspec.Rule) (w : Bytes)
    (h : Evf.constructReachR { nexthop := nh, nlri := .flowspec rules } = .bytes w) : Seq (attrItem cfg) w := by
  unfold Evf.constructReachR at h
  split at h
  · rename_i hg
    simp only [Evf.constructReach] at h
    split at h
    · rename_i nb nl hp hr
      split at h
      · cases h
      · refine seq_mpReach cfg 1 133 nb.length nb nl w (by decide) (by decide) rfl ?_
          (by simp [nlriOk, (seq_constructRules rules hg nl hr).all]) (attrWrap_of_attrHeader h)
        -- no next hop is the empty string, else a packed address
        cases nh with
        | none => cases hp; decide
        | some a => exact ipPacked_lt a nb hp
    · cases h
  · cases h

/-- MP_UNREACH_NLRI for (1, 133) -/
theorem C08b_flowspec_unreach (cfg : Cfg) (rules : List Flowspec.Rule) (w : Bytes)
    (h : Evf.constructUnreachR (.flowspec rules) = .bytes w) : Seq (attrItem cfg) w := by
  unfold Evf.constructUnreachR at h
  split at h
  · rename_i hg
    simp only [Evf.constructUnreach] at h
    split at h
    · cases h
    · split at h
      · cases h
      · rename_i nl hr
        exact seq_mpUnreach cfg 1 133 nl w (by decide) (by decide)
          (by simp [nlriOk, (seq_constructRules rules hg nl hr).all]) (attrWrap_of_attrHeader h)
  · cases h

theorem exists_of_bytes {P : Bytes → Prop} {o : Evf.CR} (hs : (match o with | .bytes _ => true | _ => false) = true)
    (h : ∀ w, o = .bytes w → P w) : ∃ w, o = .bytes w ∧ P w := by
  cases o with
  | bytes w => exact ⟨w, rfl, h w rfl⟩
  | none' => simp at hs
  | raises => simp at hs

set_option maxRecDepth 16000 in
/-- non-vacuity: one route of every type in one MP_REACH_NLRI -/
example : ∃ w, Evf.constructReachR
    { nexthop := some { v6 := false, val := 167772161 },
      nlri := .evpn [.t1 (.ip 2886729729 5904) (.t4 16843009 2) 100 [10],
                     .t2 (.asn 64512 7) (.t1 73588229205 5) 108 73588229205 (some { v6 := false, val := 3232235521 }) [0, 16],
                     .t3 (.asn 65536 2) 100 (some { v6 := true, val := 1 }),
                     .t4 (.asn 1 1) (.t3 73588229205 7) none,
                     .t5c (.asn 65536 2) 0 1 { v6 := false, val := 16843008 } 24 { v6 := false, val := 16843009 } [10]] } = .bytes w ∧
    all (attrItem {}) w = true :=
  exists_of_bytes (by decide) (fun w h => (C08b_evpn_reach {} _ _ w h).all)

/-- non-vacuity for flow specifications (the constructor's output for this rule is known from
    `constructRules_ok`, Lemmas/FlowspecRt.lean): '&' and '|' items, 1-, 2- and 8-octet values, a prefix of length 0 -/
example : ∃ b, Flowspec.constructRulesR ([[(1, .pfx 0 0), (2, .pfx 167772160 8),
      (5, .expr [[(Op.ge, 80), (Op.le, 90)], [(Op.eq, 65536)]]),
      (10, .expr [[(Op.lt, 300)], [(Op.gt, 4294967295)]])]].map SRule.toRule) = some b ∧ all (flowItem false) b = true := by
  have hc := constructRules_ok [[(1, .pfx 0 0), (2, .pfx 167772160 8),
      (5, .expr [[(Op.ge, 80), (Op.le, 90)], [(Op.eq, 65536)]]),
      (10, .expr [[(Op.lt, 300)], [(Op.gt, 4294967295)]])]] (by decide)
  have hg : ([[(1, SComp.pfx 0 0), (2, .pfx 167772160 8),
      (5, .expr [[(Op.ge, 80), (Op.le, 90)], [(Op.eq, 65536)]]),
      (10, .expr [[(Op.lt, 300)], [(Op.gt, 4294967295)]])]].map SRule.toRule).all Flowspec.ruleGuard = true := by decide
  refine ⟨_, ?_, C08b_flowspec_rules _ _ (by unfold Flowspec.constructRulesR; rw [if_pos hg]; exact hc)⟩
  unfold Flowspec.constructRulesR; rw [if_pos hg]; exact hc

end Yabgp

#print axioms Yabgp.C08b_evpn_routes
#print axioms Yabgp.C08b_evpn_reach
#print axioms Yabgp.C08b_evpn_unreach
#print axioms Yabgp.C08b_flowspec_rules
#print axioms Yabgp.C08b_flowspec_reach
#print axioms Yabgp.C08b_flowspec_unreach
