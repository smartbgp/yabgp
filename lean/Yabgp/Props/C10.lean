/-
  C10 — hostile peer input is contained.  (Termination of the handling of a chunk is C04_terminates;
  termination of the decoders is C11.)
-/
import Yabgp.Lemmas.Keeps
import Yabgp.Props.C04
import Yabgp.Lemmas.OutsExt

namespace Yabgp
open Sess

variable (U : Bool → Bytes → UpdClass)

/-- A malformed (or any other) UPDATE body never tears down an Established session: whatever the body is
    and whatever the decoder makes of it, the state after dispatching an UPDATE frame in Established is
    Established. -/
theorem C10_update_keeps_session (s : Sess) (i : Nat) (body : Bytes) (h : s.st = .established) :
    (dispatch U s i C.msgUpdate body).1.st = .established := by
  rw [show C.msgUpdate = 2 from rfl, dispatch_update]
  cases U (s.conn i).asn4 body
  case raises | unmodelled => exact h
  all_goals rw [st_fsmUpdateReceived, st_emit, st_bumpRecv, if_pos h]

/-- A message never changes how later messages are decoded, unless it is an OPEN: the AS-width mode (the only
    decoding context a connection has — add-path is never enabled) of every connection is the same after any
    UPDATE, NOTIFICATION, KEEPALIVE, ROUTE-REFRESH or unknown message, well-formed or not. -/
theorem C10_decode_context_stable (s : Sess) (i ty : Nat) (body : Bytes) (hty : ty ≠ 1) (j : Nat) :
    ((dispatch U s i ty body).1.conn j).asn4 = (s.conn j).asn4 :=
  keeps_dispatch_nonOpen indep_asn4 indepRecv_asn4 U s i ty body (by simpa [C.msgOpen] using hty) j

theorem reports_emit_report (s : Sess) (o : Out) (h : isReport o = true) :
    reports (s.emit o).outs = reports s.outs + 1 := by
  simp [reports, Sess.emit, List.filter_append, h]

/-- Each well-framed message yields at most one report to the application (the decoded message, or the
    malformed-UPDATE report). -/
theorem C10_one_report (s : Sess) (i ty : Nat) (body : Bytes) :
    reports (dispatch U s i ty body).1.outs ≤ reports s.outs + 1 := by
  have hq := reactive_nonReport.sends
  -- a reaction of the state machine reports nothing; counting the message does not touch the outputs
  have same : ∀ {t t' : Sess}, OutsExt (fun o => isReport o = false) t t' → reports t.outs = reports s.outs →
      reports t'.outs ≤ reports s.outs + 1 := fun h e => (reports_of_ext h).trans e ▸ Nat.le_succ _
  have one : ∀ {t t' : Sess} (o : Out), isReport o = true → OutsExt (fun o => isReport o = false) (t.emit o) t' →
      reports t.outs = reports s.outs → reports t'.outs ≤ reports s.outs + 1 := fun o ho h e =>
    Nat.le_of_eq ((reports_of_ext h).trans ((reports_emit_report _ o ho).trans (congrArg (· + 1) e)))
  have caps : ∀ (m : OpenMsg) u, u = ((s.bumpRecv i incOpens).withRemote m.caps).setAsn4 i ∨
      u = (s.bumpRecv i incOpens).withRemote m.caps → reports u.outs = reports s.outs := by
    rintro m u (rfl | rfl) <;> rfl
  refine dispatch_elim (P := fun r => reports r.1.outs ≤ reports s.outs + 1) U s i ty body ?_ ?_ ?_ ?_ ?_ ?_ ?_ ?_ ?_ ?_ ?_ ?_
  · intro _
    refine openReceived_elim (P := fun r => reports r.1.outs ≤ reports s.outs + 1) s i body ?_ ?_ ?_ ?_ ?_
    · exact fun sub _ => same (hq.headerError _ sub _) rfl
    · exact fun sub _ => same (hq.openMessageError _ sub) rfl
    · exact Nat.le_succ _
    · exact same (hq.openMessageError _ _) rfl
    · intro m
      refine openAccepted_elim (P := fun r => reports r.1.outs ≤ reports s.outs + 1) _ i m ?_ ?_
      · exact fun u hu => same (hq.openMessageError u _) (caps m u hu)
      · exact fun u hu => one _ rfl (.refl _ _) ((reports_of_ext (hq.fsmOpenReceived _)).trans (caps m u hu))
  · exact fun _ => Nat.le_succ _
  · exact fun _ => same (.emit _ _ rfl) rfl
  · exact fun _ => one _ rfl (hq.fsmUpdateReceived _) rfl
  · exact fun _ => one _ rfl (hq.fsmUpdateReceived _) rfl
  · exact fun _ _ => Nat.le_succ _
  · exact fun e sub d _ _ => one _ rfl (hq.fsmNotificationReceived _ e sub) rfl
  · exact fun _ => one _ rfl (hq.fsmKeepaliveReceived _) rfl
  · exact fun _ => one _ rfl (hq.headerError _ _ _) rfl
  · exact fun _ => Nat.le_succ _
  · exact fun a r sf _ => one _ rfl (.refl _ _) rfl
  · exact fun _ _ _ _ _ => same (hq.headerError s _ _) rfl

/-- Nothing escapes from sending a NOTIFICATION as long as the state machine tracks some connection (which it does
    from the first successful connect on, and no message can arrive before that) and the NOTIFICATION can be built:
    the only places the model marks as escapes need `proto = none` or a message too large.  That every call made
    while a message is handled meets the two conditions is `C10_never_escapes` (Props/C10b.lean). -/
theorem C10_no_escape_send (s : Sess) (i : Nat) (hp : s.proto = some i) (e sub : Nat) (d : Bytes)
    (he : e < 256) (hs : sub < 256) (hd : d.length + 21 < 65536) :
    ∀ o ∈ (s.sendNotification e sub d).outs, o = .escaped → o ∈ s.outs := by
  intro o ho hesc
  subst hesc
  simp only [sendNotification, hp, constructNotification_eq e sub d he hs hd] at ho
  unfold writeOn at ho
  split at ho
  · simp [Sess.emit, bumpSent, setConn, withConns] at ho
    exact ho
  · simpa [bumpSent, setConn, withConns] using ho

end Yabgp

#print axioms Yabgp.C10_update_keeps_session
#print axioms Yabgp.C10_decode_context_stable
#print axioms Yabgp.C10_one_report
#print axioms Yabgp.C10_no_escape_send
