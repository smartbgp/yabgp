/-
  C07 (part b) - multiprotocol NLRI round trip for EVPN route types 1-4 and IPv4 flow specifications inside
  MP_REACH_NLRI / MP_UNREACH_NLRI, and the C15 compositionality of the EVPN route list and of the flowspec
  rule / component lists.  The lemmas behind them are in Yabgp/Lemmas/EvpnRt.lean, FlowspecRt.lean, EvfRt.lean.

  The models are those of the repaired code (ESI type 3 width, address family by field
  size, '&' items, value widths, prefix length 0, extended NLRI length).  What the code still does not do is
  stated as `KF_flowspec_component_not_encoded` below.
-/
import Yabgp.Lemmas.EvfRt

namespace Yabgp
open Yabgp.Evpn Yabgp.Flowspec Yabgp.Evf

/-- route type 1 (Ethernet auto-discovery): every RD type 0/1/2, every ESI type 0..5, any tag, any non-empty
    label stack of 20-bit labels - construct succeeds and the value decodes back to exactly itself -/
theorem C07_evpn_t1 (rd : Rd) (esi : Esi) (tag : Nat) (label : List Nat) (h : RouteOk (.t1 rd esi tag label)) :
    ∃ w, constructRouteValue (.t1 rd esi tag label) = some w ∧ decodeRoute 1 w = .ok (.t1 rd esi tag label) := by
  obtain ⟨w, hc, _, hd⟩ := route_rt _ h
  exact ⟨w, hc, hd⟩

/-- route type 2 (MAC/IP advertisement): any 48-bit MAC, IP absent / IPv4 / IPv6 (every 128-bit value), 0..n labels -/
theorem C07_evpn_t2 (rd : Rd) (esi : Esi) (tag mac : Nat) (ip : Option Ip) (label : List Nat)
    (h : RouteOk (.t2 rd esi tag mac ip label)) :
    ∃ w, constructRouteValue (.t2 rd esi tag mac ip label) = some w ∧
      decodeRoute 2 w = .ok (.t2 rd esi tag mac ip label) := by
  obtain ⟨w, hc, _, hd⟩ := route_rt _ h
  exact ⟨w, hc, hd⟩

/-- route type 3 (inclusive multicast Ethernet tag) -/
theorem C07_evpn_t3 (rd : Rd) (tag : Nat) (ip : Option Ip) (h : RouteOk (.t3 rd tag ip)) :
    ∃ w, constructRouteValue (.t3 rd tag ip) = some w ∧ decodeRoute 3 w = .ok (.t3 rd tag ip) := by
  obtain ⟨w, hc, _, hd⟩ := route_rt _ h
  exact ⟨w, hc, hd⟩

/-- route type 4 (Ethernet segment) -/
theorem C07_evpn_t4 (rd : Rd) (esi : Esi) (ip : Option Ip) (h : RouteOk (.t4 rd esi ip)) :
    ∃ w, constructRouteValue (.t4 rd esi ip) = some w ∧ decodeRoute 4 w = .ok (.t4 rd esi ip) := by
  obtain ⟨w, hc, _, hd⟩ := route_rt _ h
  exact ⟨w, hc, hd⟩

/-- route type 5 (IP prefix) is encoded and decoded by the code, but not symmetrically: `construct` takes the ESI as
    a number (and packs it as an IEEE-754 double), `parse` returns an ESI dict, and derives the width of prefix and
    gateway from the total length (11 or 35 octets).  It decodes back exactly in this corner: ESI 0 (read back as
    `{type: 0, value: 0}`), prefix and gateway of one family, exactly one label.  (Outside the property text, which
    names route types 1-4; stated for completeness.) -/
theorem C07_evpn_t5 (rd : Rd) (tag plen l : Nat) (pfx gw : Ip) (hrd : RdOk rd) (htag : tag < 4294967296)
    (hplen : plen < 256) (hp : IpOk pfx) (hg : IpOk gw) (hfam : pfx.v6 = gw.v6) (hl : l < 1048576) :
    ∃ w, constructRouteValue (.t5c rd 0 tag pfx plen gw [l]) = some w ∧
      decodeRoute 5 w = .ok (.t5 rd (.t0 0) tag pfx plen gw [l]) := by
  obtain ⟨w, hc, hp⟩ := t5_rt rd tag plen l pfx gw hrd htag hplen hp hg hfam hl
  exact ⟨w, hc, by simp [decodeRoute, hp]⟩

/-- C15, EVPN route list, compositional form: for any list of in-range routes `EVPN.construct` succeeds, and its
    output in front of ANY octets decodes to those routes followed by whatever the rest decodes to (and raises
    exactly when the rest does) -/
theorem C15_evpn_routes (rs : List Route) (hok : ∀ r ∈ rs, RouteOk r) :
    ∃ w, constructRoutes rs = some w ∧ w.length = routesLen rs ∧
      ∀ rest, parseRoutes (w ++ rest) = (parseRoutes rest).map (rs ++ ·) :=
  parseRoutes_list rs hok

/-- hence the round trip of a whole route list (1..n routes of any mix of types 1-4) -/
theorem C07_evpn_routes (rs : List Route) (hok : ∀ r ∈ rs, RouteOk r) :
    ∃ w, constructRoutes rs = some w ∧ w.length = routesLen rs ∧ parseRoutes w = some rs := by
  obtain ⟨w, hc, hl, hp⟩ := parseRoutes_list rs hok
  refine ⟨w, hc, hl, ?_⟩
  have := hp []
  simpa [parseRoutes_nil] using this

/-- C15: an entry of a route type the decoder does not know (any type octet other than 1..5, any body that fits
    the length octet), in front of anything, changes nothing -/
theorem C15_evpn_unknown_type (t : Nat) (body rest : Bytes) (ht : t < 256) (hb : body.length < 256)
    (hu : t ∉ [1, 2, 3, 4, 5]) :
    parseRoutes (u8 t :: u8 body.length :: (body ++ rest)) = parseRoutes rest :=
  parseRoutes_unknown t body rest ht hb hu

/-- C15: what the loop does with one entry depends on that entry only - for ANY type and ANY body -/
theorem C15_evpn_entry (t : Nat) (body rest : Bytes) (ht : t < 256) (hb : body.length < 256) :
    parseRoutes (u8 t :: u8 body.length :: (body ++ rest)) =
      match decodeRoute t body with
      | .err => none
      | .skip => parseRoutes rest
      | .ok r => (parseRoutes rest).map (r :: ·) :=
  parseRoutes_tlv t body rest ht hb

/-- MP_REACH_NLRI, afi/safi (25, 70): IPv4 or IPv6 next hop (every value), 0..n routes that fit one attribute -
    construct succeeds, the attribute carries the right header, and its value decodes back to exactly the next hop
    and the routes -/
theorem C07_evpn_reach (nh : Ip) (rs : List Route) (hnh : IpOk nh) (hok : ∀ r ∈ rs, RouteOk r)
    (hfit : routesLen rs < 65000) :
    ∃ body, constructReach { nexthop := some nh, nlri := .evpn rs } = .bytes ([0x90, 14] ++ be16 body.length ++ body) ∧
      parseReach body = .ok { nexthop := some nh, nlri := .evpn rs } := by
  obtain ⟨nb, hnb, hnl, _, hpn⟩ := ipPacked_rt nh hnh
  obtain ⟨nl, hr, hl, hp⟩ := C07_evpn_routes rs hok
  obtain ⟨e1, e2, e3⟩ := reach_fields afiL2vpn safiEvpn nb nl (by decide) (by decide) (by omega)
  refine ⟨be16 afiL2vpn ++ [u8 safiEvpn, u8 nb.length] ++ nb ++ [0] ++ nl, ?_, ?_⟩
  · simp only [constructReach, hnb, hr]
    exact attrHeader_ok 14 (by simp only [List.length_append, List.length_cons, List.length_nil, be16_length]; omega)
  · simp only [parseReach, e1, e2, e3, hpn, hp, and_self, ↓reduceIte]

/-- MP_UNREACH_NLRI, afi/safi (25, 70): 1..n routes -/
theorem C07_evpn_unreach (rs : List Route) (hok : ∀ r ∈ rs, RouteOk r) (hne : rs ≠ [])
    (hfit : routesLen rs < 65000) :
    ∃ body, constructUnreach (.evpn rs) = .bytes ([0x90, 15] ++ be16 body.length ++ body) ∧
      parseUnreach body = .ok (.evpn rs) := by
  obtain ⟨nl, hr, hl, hp⟩ := C07_evpn_routes rs hok
  obtain ⟨e1, e2⟩ := unreach_fields afiL2vpn safiEvpn nl (by decide) (by decide)
  have hnn : nl ≠ [] := by
    intro hh
    obtain ⟨r, rs', rfl⟩ := List.exists_cons_of_ne_nil hne
    rw [hh] at hl
    simp [routesLen] at hl
    omega
  obtain ⟨x, xs, hx⟩ := List.exists_cons_of_ne_nil hnn
  refine ⟨be16 afiL2vpn ++ [u8 safiEvpn] ++ nl, ?_, ?_⟩
  · simp only [constructUnreach, hr]
    rw [hx, ← hx]
    exact attrHeader_ok 15 (by simp only [List.length_append, List.length_cons, List.length_nil, be16_length]; omega)
  · simp only [parseUnreach, e1, e2, hp, and_self, ↓reduceIte]

end Yabgp

namespace Yabgp
open Yabgp.Evpn Yabgp.Flowspec Yabgp.Evf Yabgp.Text

/-- numeric operator lists: for every expression - a non-empty OR (`|`) of non-empty AND-groups (`&`) of
    comparisons `=`, `<`, `>`, `<=`, `>=` with values below 2^64 (1, 2, 4 or 8 octets) - `construct_operators`
    accepts its text, and decoding the octets (in front of ANYTHING) gives back exactly that text and stops
    right behind them -/
theorem C07_flowspec_operators (e : Expr) (h : ExprOk e) :
    ∃ b, constructOperators (exprText e) = some b ∧
      ∀ T, ∃ l, parseOperators (b ++ T) = some (l, b.length + 1) ∧ opsToStr [] l = exprText e :=
  ⟨encExpr e, constructOperators_expr e h,
   fun T => ⟨pairsExpr e, parseOperators_expr e h T, opsToStr_expr e h⟩⟩

/-- prefix components: every length 0..32, every address in network form -/
theorem C07_flowspec_prefix (a l : Nat) (hl : l ≤ 32) (ha : a < 4294967296) (hn : a % 2 ^ (32 - l) = 0) (rest : Bytes) :
    ∃ b, constructPrefix a l = some b ∧ parsePrefix (b ++ rest) = some (.pfx a l, b.length) := by
  obtain ⟨hc, hlen, hp⟩ := parsePrefix_enc a l rest (netform_FsPfxOk hl ha hn)
  exact ⟨_, hc, by simpa [hlen] using hp⟩

/-- one flow specification: for every structured value in range (distinct component types among 1, 2 - prefixes -
    and 3, 4, 5, 6, 7, 8, 10, 11 - numeric expressions), `construct_nlri` writes `ruleBytes`, and
    `IPv4FlowSpec.parse` of those octets returns a dict with exactly the given value under every key -/
theorem C07_flowspec_rule (r : SRule) (h : SRuleOk r) :
    constructRuleBody r.toRule = some (ruleBytes r) ∧
    ∃ d, parseRule [] (ruleBytes r) = some d ∧ ∀ t, dictGet d t = dictGet r.toRule t := by
  obtain ⟨hb, _, hp, hg⟩ := rule_rt r h
  exact ⟨hb, _, hp, hg⟩

/-- C15, component list, compositional form: the components of a flow specification in front of ANY octets put
    their values into the dict (in the order of `allTypes`) and decoding continues behind them -/
theorem C15_flowspec_components (r : SRule) (h : SRuleOk r) (acc : Rule) (rest : Bytes) :
    parseRule acc (ruleBytes r ++ rest) = parseRule (collect r.toRule acc allTypes) rest :=
  (rule_rt r h).2.1 acc rest

/-- C15: what the loop does with one component depends on that component only - for ANY component decoder result -/
theorem C15_flowspec_component (acc : Rule) (t : Nat) (ht : t < 256) (body rest : Bytes) (c : Comp)
    (h : parseComp t (body ++ rest) = some (c, body.length)) :
    parseRule acc (u8 t :: (body ++ rest)) = parseRule (dictSet acc t c) rest :=
  parseRule_comp acc t ht body rest c h

/-- C15, list of flow specifications, compositional form (1-octet lengths and 2-octet lengths 0xfnnn) -/
theorem C15_flowspec_rules (rs : List SRule) (h : ∀ r ∈ rs, FsOk r) (rest : Bytes) :
    constructRules (rs.map SRule.toRule) = some (rs.flatMap nlriBytes) ∧
    parseRules (rs.flatMap nlriBytes ++ rest) = (parseRules rest).map (rs.map (fun r => ordered r.toRule) ++ ·) :=
  ⟨constructRules_ok rs h, parseRules_list rs h rest⟩

theorem C07_flowspec_rules (rs : List SRule) (h : ∀ r ∈ rs, FsOk r) :
    parseRules (rs.flatMap nlriBytes) = some (rs.map fun r => ordered r.toRule) := by
  have := parseRules_list rs h []
  simpa [parseRules_nil] using this

/-- MP_REACH_NLRI, afi/safi (1, 133): next hop absent, IPv4 or IPv6; 1..n flow specifications -/
theorem C07_flowspec_reach (nh : Option Ip) (rs : List SRule) (hnh : OptIpOk nh) (h : ∀ r ∈ rs, FsOk r)
    (hne : rs ≠ []) (hfit : (rs.flatMap nlriBytes).length < 65000) :
    ∃ body, constructReach { nexthop := nh, nlri := .flowspec (rs.map SRule.toRule) } =
        .bytes ([0x90, 14] ++ be16 body.length ++ body) ∧
      parseReach body = .ok { nexthop := nh, nlri := .flowspec (rs.map fun r => ordered r.toRule) } := by
  have hnl := constructRules_ok rs h
  have hp := C07_flowspec_rules rs h
  have hnn : rs.flatMap nlriBytes ≠ [] := by
    obtain ⟨r, rs', rfl⟩ := List.exists_cons_of_ne_nil hne
    simp [nlriBytes_ne_nil]
  cases nh with
  | none =>
    obtain ⟨e1, e2, e3⟩ := reach_fields afiInet safiFlowspec [] (rs.flatMap nlriBytes) (by decide) (by decide) (by simp)
    refine ⟨be16 afiInet ++ [u8 safiFlowspec, u8 0] ++ [] ++ [0] ++ rs.flatMap nlriBytes, ?_, ?_⟩
    · simp only [constructReach, hnl, hnn, ↓reduceIte, List.length_nil]
      exact attrHeader_ok 14 (by simp only [List.length_append, List.length_cons, List.length_nil, be16_length]; omega)
    · simp only [List.length_nil, Nat.add_zero] at e1 e2 e3
      simp only [parseReach, e1, e2, e3, hp]
      simp [afiInet, afiL2vpn, safiFlowspec]
  | some ip =>
    obtain ⟨nb, hnb, hnl4, _, hpn⟩ := ipPacked_rt ip hnh
    obtain ⟨x, xs, rfl⟩ := List.exists_cons_of_ne_nil (show nb ≠ [] by rintro rfl; simp at hnl4)
    obtain ⟨e1, e2, e3⟩ :=
      reach_fields afiInet safiFlowspec (x :: xs) (rs.flatMap nlriBytes) (by decide) (by decide) (by omega)
    refine ⟨be16 afiInet ++ [u8 safiFlowspec, u8 (x :: xs).length] ++ (x :: xs) ++ [0] ++ rs.flatMap nlriBytes, ?_, ?_⟩
    · simp only [constructReach, hnb, hnl, hnn, ↓reduceIte]
      exact attrHeader_ok 14 (by
        simp only [List.length_append, List.length_cons, List.length_nil, be16_length] at hnl4 ⊢; omega)
    · simp only [parseReach, e1, e2, e3, hp, hpn]
      simp [afiInet, afiL2vpn, safiFlowspec]

/-- MP_UNREACH_NLRI, afi/safi (1, 133) -/
theorem C07_flowspec_unreach (rs : List SRule) (h : ∀ r ∈ rs, FsOk r) (hne : rs ≠ [])
    (hfit : (rs.flatMap nlriBytes).length < 65000) :
    ∃ body, constructUnreach (.flowspec (rs.map SRule.toRule)) = .bytes ([0x90, 15] ++ be16 body.length ++ body) ∧
      parseUnreach body = .ok (.flowspec (rs.map fun r => ordered r.toRule)) := by
  have hnl := constructRules_ok rs h
  have hp := C07_flowspec_rules rs h
  obtain ⟨e1, e2⟩ := unreach_fields afiInet safiFlowspec (rs.flatMap nlriBytes) (by decide) (by decide)
  refine ⟨be16 afiInet ++ [u8 safiFlowspec] ++ rs.flatMap nlriBytes, ?_, ?_⟩
  · have : rs.map SRule.toRule ≠ [] := by simpa using hne
    simp only [constructUnreach, this, ↓reduceIte, hnl]
    exact attrHeader_ok 15 (by simp only [List.length_append, List.length_cons, List.length_nil, be16_length]; omega)
  · simp only [parseUnreach, e1, e2, hp]
    simp [afiInet, afiL2vpn, safiFlowspec]

/-- KNOWN FINDING (flowspec components 9 = TCP flags and 12 = fragment are decoded but never encoded):
    `construct_nlri` silently drops such a component, so `{5: '=80', 9: '=40'}` is sent - and decodes - as
    `{5: '=80'}`.  Witness on the model; the same input is replayed on the real code by the suite `evf`. -/
theorem KF_flowspec_component_not_encoded :
    ∃ b d, constructRuleBody [(5, .ops (exprText [[(Op.eq, 80)]])), (9, .ops (exprText [[(Op.eq, 40)]]))] = some b ∧
      parseRule [] b = some d ∧ dictGet d 9 = none ∧ dictGet d 5 = some (.ops (exprText [[(Op.eq, 80)]])) := by
  have hok : SRuleOk [(5, .expr [[(Op.eq, 80)]])] := by decide
  obtain ⟨hb, _, hp, hg⟩ := rule_rt _ hok
  refine ⟨_, _, ?_, hp, ?_, ?_⟩
  · rw [← hb]
    simp [constructRuleBody, pfxTypes, opTypes, constructPfxComp, constructOpComp, dictGet, SRule.toRule, SComp.toComp]
  · rw [hg]; simp [SRule.toRule, dictGet]
  · rw [hg]; simp [SRule.toRule, dictGet, SComp.toComp]

/-- non-vacuity: routes of every type with an ESI of type 3 whose local discriminator is 1 (the value that
    raised before the repair), an IPv6 address below 2^32 (decoded as IPv4 before the repair), label 0 and label 2^20-1 -/
example : RouteOk (.t1 (.asn 65535 4294967295) (.t3 0x001122334455 1) 4294967295 [0, 1048575]) := by decide
example : RouteOk (.t2 (.ip 2886795267 2) (.t1 0x4c1fccec1773 2609) 108 0x001122334455 (some ⟨true, 1⟩) [0]) := by decide
example : RouteOk (.t3 (.asn 65536 65535) 100 (some ⟨false, 3232235521⟩)) := by decide
example : RouteOk (.t4 (.ip 0 0) (.t5 4294967295 4294967295) none) := by decide

example : routesLen [.t1 (.asn 65535 4294967295) (.t3 0x001122334455 1) 4294967295 [0, 1048575],
                     .t2 (.ip 2886795267 2) (.t1 0x4c1fccec1773 2609) 108 0x001122334455 (some ⟨true, 1⟩) [0]] < 65000 := by
  decide

/-- non-vacuity for flow specifications: '&' and '|' items (dropped by the unrepaired code), a value that needs 4 octets but
    only 3 significant ones, a prefix of length 0 (both raised) -/
example : FsOk [(1, .pfx 0 0), (2, .pfx 167772160 8),
                (5, .expr [[(Op.ge, 80), (Op.le, 90)], [(Op.eq, 65536)]]), (10, .expr [[(Op.lt, 300)], [(Op.gt, 4294967295)]])] := by
  decide

end Yabgp

#print axioms Yabgp.C07_evpn_t1
#print axioms Yabgp.C07_evpn_t2
#print axioms Yabgp.C07_evpn_t3
#print axioms Yabgp.C07_evpn_t4
#print axioms Yabgp.C07_evpn_t5
#print axioms Yabgp.C07_evpn_routes
#print axioms Yabgp.C07_evpn_reach
#print axioms Yabgp.C07_evpn_unreach
#print axioms Yabgp.C15_evpn_routes
#print axioms Yabgp.C15_evpn_unknown_type
#print axioms Yabgp.C15_evpn_entry
#print axioms Yabgp.C07_flowspec_operators
#print axioms Yabgp.C07_flowspec_prefix
#print axioms Yabgp.C07_flowspec_rule
#print axioms Yabgp.C07_flowspec_rules
#print axioms Yabgp.C07_flowspec_reach
#print axioms Yabgp.C07_flowspec_unreach
#print axioms Yabgp.C15_flowspec_components
#print axioms Yabgp.C15_flowspec_component
#print axioms Yabgp.C15_flowspec_rules
#print axioms Yabgp.KF_flowspec_component_not_encoded
