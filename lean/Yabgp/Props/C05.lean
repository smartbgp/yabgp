/-
  C05 — each session's OPEN and its acceptance policy depend only on configuration.
  Acceptance (accepted iff decodable, version 4, the configured peer AS — the 4-octet value when the capability is
  present, see C14 — and hold time not 1 or 2; hold time = min(configured, proposed)) is C01_open_accepted together
  with C01_open_rejected.  This file adds: what our OPEN carries; that only configured capabilities are ever
  advertised, in every reachable state; when 4-octet AS decoding is switched on; and the witness of the known
  finding (the capability set shrinks after a peer that lacked a capability).
-/
import Yabgp.Props.C14
import Yabgp.Props.C03

namespace Yabgp
open Sess Spec

variable (U : Bool → Bytes → UpdClass)

/-- Our OPEN, whenever one is built in state `s`, decodes (by the model decoder, and by C14 also by any decoder that
    agrees with the reference encoder) to: version 4, the configured local AS as the true AS (AS_TRANS in the
    2-octet field plus the 4-octet capability when it exceeds 65535), the CONFIGURED hold time — not a negotiated
    one — and the BGP identifier chosen at the first connection. -/
theorem C05_open_fields (s : Sess) (w : Bytes) (h1 : 1 ≤ s.cfg.localAs) (hw : s.openWire = some w) :
    ∃ body m, w = marker ++ be16 (body.length + 19) ++ be8 1 ++ body ∧ parseOpen body = .ok m ∧
      m.version = 4 ∧ m.asn = s.cfg.localAs ∧ m.holdTime = s.cfg.holdCfg ∧ m.bgpId = s.bgpId.getD 0 := by
  unfold openWire at hw
  obtain ⟨body, hb, hp⟩ := C14_open_roundtrip s.cfg.localAs s.cfg.holdCfg (s.bgpId.getD 0)
    (negotiateCaps s.localCaps s.remote) w h1 hw
  obtain ⟨a1, a2, a3⟩ := C14_open_true_as s.cfg.localAs s.cfg.holdCfg (s.bgpId.getD 0) (negotiateCaps s.localCaps s.remote)
  exact ⟨body, _, hb, hp, rfl, a1, a2, a3⟩

structure CapsLe (l l0 : LocalCaps) : Prop where
  afiSafi : l.afiSafi = none ∨ l.afiSafi = l0.afiSafi
  crr : l.ciscoRouteRefresh = true → l0.ciscoRouteRefresh = true
  rr : l.routeRefresh = true → l0.routeRefresh = true
  fba : l.fourBytesAs = true → l0.fourBytesAs = true
  enh : l.extNexthop = none ∨ l.extNexthop = l0.extNexthop
  ap : l.addPath = none ∨ l.addPath = l0.addPath
  err : l.enhancedRouteRefresh = true → l0.enhancedRouteRefresh = true

theorem CapsLe.refl (l : LocalCaps) : CapsLe l l :=
  ⟨Or.inr rfl, id, id, id, Or.inr rfl, Or.inr rfl, id⟩

theorem CapsLe.trans {a b c : LocalCaps} (h1 : CapsLe a b) (h2 : CapsLe b c) : CapsLe a c := by
  refine ⟨?_, fun h => h2.crr (h1.crr h), fun h => h2.rr (h1.rr h), fun h => h2.fba (h1.fba h), ?_, ?_,
    fun h => h2.err (h1.err h)⟩
  · rcases h1.afiSafi with h | h
    · exact Or.inl h
    · rcases h2.afiSafi with h' | h'
      · exact Or.inl (h.trans h')
      · exact Or.inr (h.trans h')
  · rcases h1.enh with h | h
    · exact Or.inl h
    · rcases h2.enh with h' | h'
      · exact Or.inl (h.trans h')
      · exact Or.inr (h.trans h')
  · rcases h1.ap with h | h
    · exact Or.inl h
    · rcases h2.ap with h' | h'
      · exact Or.inl (h.trans h')
      · exact Or.inr (h.trans h')

/-- capability_negotiate only ever removes -/
theorem negotiateCaps_le (l : LocalCaps) (r : CapaDict) : CapsLe (negotiateCaps l r) l := by
  unfold negotiateCaps
  split
  · refine ⟨?_, ?_, ?_, ?_, ?_, ?_, ?_⟩
    · show (if r.afiSafi.isSome then l.afiSafi else none) = none ∨ _
      cases r.afiSafi <;> simp
    · simp; intro h _; exact h
    · simp; intro h _; exact h
    · simp; intro h _; exact h
    · show (if r.extNexthop.isSome then l.extNexthop else none) = none ∨ _
      cases r.extNexthop <;> simp
    · show (if r.addPath.isSome then l.addPath else none) = none ∨ _
      cases r.addPath <;> simp
    · simp; intro h _; exact h
  · exact CapsLe.refl l

structure Cfgc (s s' : Sess) : Prop where
  cfg : s'.cfg = s.cfg
  caps : s'.localCaps = s.localCaps

theorem cfgc_withOuts (s : Sess) (v : List Out) : Cfgc s (s.withOuts v) := ⟨rfl, rfl⟩

def CapsKept (s s' : Sess) : Prop := CapsLe s'.localCaps s.localCaps ∧ s'.cfg = s.cfg

theorem Cfgc.le {s s' : Sess} (h : Cfgc s s') : CapsKept s s' := ⟨h.caps ▸ .refl _, h.cfg⟩

/-- nothing but capability_negotiate (in `send_open`) touches the two fields -/
theorem caps_runs : Runs CapsKept where
  refl _ := ⟨.refl _, rfl⟩
  trans h1 h2 := ⟨h2.1.trans h1.1, h2.2.trans h1.2⟩
  tm _ _ _ := Cfgc.le ⟨rfl, rfl⟩
  withSt _ _ := Cfgc.le ⟨rfl, rfl⟩
  withRetryCounter _ _ := Cfgc.le ⟨rfl, rfl⟩
  established _ := Cfgc.le ⟨rfl, rfl⟩
  setDisconnected _ _ := Cfgc.le ⟨rfl, rfl⟩
  closing _ _ := Cfgc.le ⟨rfl, rfl⟩
  lose _ _ := Cfgc.le ⟨rfl, rfl⟩
  bumpSent _ _ _ := Cfgc.le ⟨rfl, rfl⟩
  write _ _ _ _ := Cfgc.le ⟨rfl, rfl⟩
  escaped _ := Cfgc.le ⟨rfl, rfl⟩
  bumpRecv _ _ _ := Cfgc.le ⟨rfl, rfl⟩
  note _ _ _ := Cfgc.le ⟨rfl, rfl⟩
  withRemote _ _ := Cfgc.le ⟨rfl, rfl⟩
  setAsn4 _ _ := Cfgc.le ⟨rfl, rfl⟩
  withHoldTime _ _ := Cfgc.le ⟨rfl, rfl⟩
  withAllow _ _ := Cfgc.le ⟨rfl, rfl⟩
  withEstab _ _ := Cfgc.le ⟨rfl, rfl⟩
  withPending _ _ := Cfgc.le ⟨rfl, rfl⟩
  closed _ _ := Cfgc.le ⟨rfl, rfl⟩
  addConn _ := Cfgc.le ⟨rfl, rfl⟩
  ctl _ _ _ := Cfgc.le ⟨rfl, rfl⟩
  advance _ _ := Cfgc.le ⟨rfl, rfl⟩
  clear s := (cfgc_withOuts s []).le
  connected _ _ := Cfgc.le ⟨rfl, rfl⟩
  withProto _ _ := Cfgc.le ⟨rfl, rfl⟩
  bgpId _ _ h := h
  negotiate _ := ⟨negotiateCaps_le _ _, rfl⟩
  sentOpen _ _ _ _ _ := Cfgc.le ⟨rfl, rfl⟩

theorem step_caps_le (w : World) (e : Ev) :
    CapsLe (step U w e).sess.localCaps w.sess.localCaps ∧ (step U w e).sess.cfg = w.sess.cfg :=
  caps_runs.step U w e

/-- In every state reachable by any event sequence the capability dictionary from which the next OPEN is built
    advertises only capabilities of the configured set (it may have lost some: the known finding below). -/
theorem C05_only_configured_capabilities (cfg : Cfg) (evs : List Ev) :
    CapsLe (run U (bootWorld cfg) evs).sess.localCaps cfg.caps0 ∧ (run U (bootWorld cfg) evs).sess.cfg = cfg := by
  have gen : ∀ (evs : List Ev) (w : World), CapsLe w.sess.localCaps cfg.caps0 → w.sess.cfg = cfg →
      CapsLe (run U w evs).sess.localCaps cfg.caps0 ∧ (run U w evs).sess.cfg = cfg := by
    intro evs
    induction evs with
    | nil => intro w h1 h2; exact ⟨h1, h2⟩
    | cons e r ih =>
      intro w h1 h2
      obtain ⟨k1, k2⟩ := step_caps_le U w e
      exact ih _ (k1.trans h1) (k2.trans h2)
  exact gen evs _ (CapsLe.refl _) rfl

/-- AS numbers in later UPDATEs of this session are read as 4-octet exactly when the peer's OPEN carried the
    4-octet-AS capability AND our own OPEN of this session advertised it (the capability dictionary the OPEN was
    built from has it, or our AS needs it) — on a connection that starts with 2-octet decoding. -/
theorem C05_asn4_iff_both {t : Sess} {i : Nat} (hn : Norm t i) (m : OpenMsg) (h0 : (t.conn i).asn4 = false)
    (hh : ¬ (m.holdTime ≠ 0 ∧ m.holdTime < 3)) :
    ((t.openAccepted i m).1.conn i).asn4 = true ↔
      (m.caps.fourBytesAs = true ∧ (t.cfg.localAs > 65535 ∨ t.localCaps.fourBytesAs = true)) := by
  unfold openAccepted
  rw [if_neg hh]
  have keep : ∀ (u : Sess) (v : Nat), (((u.withHoldTime v).fsmOpenReceived.emit (.hOpen i m)).conn i).asn4 = (u.conn i).asn4 := by
    intro u v
    have := indep_asn4.sends.fsmOpenReceived (u.withHoldTime v) i
    exact this
  split
  · rename_i hc
    simp only [keep]
    have : (((t.withRemote m.caps).setAsn4 i).conn i).asn4 = true := by
      simp only [setAsn4, conn_setConn]
      have : i < (t.withRemote m.caps).conns.length := hn.lt
      simp [this]
    simp [this, hc]
  · rename_i hc
    simp only [keep]
    have : ((t.withRemote m.caps).conn i).asn4 = false := h0
    simp [this, hc]

theorem C05_new_connection_decodes_2octet (s : Sess) (h : s.st ≠ .established) :
    (s.connectTcp.conn s.conns.length).asn4 = false := by
  unfold connectTcp
  rw [if_pos (by simpa using h)]
  simp [conn, Sess.emit, withConns, withPending]

/-- KNOWN FINDING (C05-capability-leak), model side: after a peer OPEN that carried the 4-octet-AS capability but not
    route refresh, the dictionary our NEXT OPEN is built from has lost route refresh — the OPEN of the next
    session is not the one the configuration alone determines.  (The harness replays this on the real code.) -/
theorem KF_C05_capability_leak :
    negotiateCaps exCfg.caps0 { fourBytesAs := true } ≠ exCfg.caps0 ∧
    (negotiateCaps exCfg.caps0 { fourBytesAs := true }).routeRefresh = false ∧ exCfg.caps0.routeRefresh = true := by
  decide

end Yabgp

#print axioms Yabgp.C05_open_fields
#print axioms Yabgp.C05_only_configured_capabilities
#print axioms Yabgp.C05_asn4_iff_both
#print axioms Yabgp.C05_new_connection_decodes_2octet
#print axioms Yabgp.KF_C05_capability_leak
