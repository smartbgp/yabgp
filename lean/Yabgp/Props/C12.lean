/-
  C12 — at most one TCP connection or connection attempt to the peer at any time.
  Proved here: (1) for every event and every state, every BGP message the agent writes goes to the connection its
  state machine tracks (`FSM.protocol`); (2) `C12_at_most_one`: in EVERY state reachable after the agent's start - any
  peer behaviour, any timer order, any operator stop/start, connect-retry times below or above the TCP timeout - at
  most one connection is live (attempt in flight or open), every open connection is the tracked one (none is left open
  and unreferenced), and the attempt in flight is the one the peering remembers (so that it can give it up).
  (2) rests on the peering keeping the connector of the attempt in flight and giving it up before starting another one
  and at manual stop (`pending`, `abortPending`); three histories in which two attempts would be in flight otherwise
  are kept below as regression theorems.
-/
import Yabgp.Lemmas.OutsExt
import Yabgp.Lemmas.OneConn
import Yabgp.Props.C02

namespace Yabgp
open Sess

variable (U : Bool → Bytes → UpdClass)

def ToTracked (p : Option Nat) (o : Out) : Prop := ∀ c b, o = .write c b → p = some c

structure WT (s s' : Sess) : Prop where
  ext : OutsExt (ToTracked s.proto) s s'
  proto : s'.proto = s.proto

theorem WT.refl (s : Sess) : WT s s := ⟨OutsExt.refl _ s, rfl⟩
theorem WT.trans {a b c : Sess} (h1 : WT a b) (h2 : WT b c) : WT a c :=
  ⟨h1.ext.trans (h1.proto ▸ h2.ext), h2.proto.trans h1.proto⟩

theorem wt_emit (s : Sess) (o : Out) (h : ∀ c b, o ≠ .write c b) : WT s (s.emit o) :=
  ⟨OutsExt.emit s o fun c b e => absurd e (h c b), rfl⟩
theorem wt_same {s s' : Sess} (ho : s'.outs = s.outs) (hp : s'.proto = s.proto) : WT s s' := ⟨OutsExt.of_same ho, hp⟩

/-- `WT` holds across every action that leaves `FSM.protocol` alone: all but `connOk` -/
theorem wt_steps : Steps WT where
  refl := WT.refl
  trans := WT.trans
  tm _ _ _ := wt_same rfl rfl
  withSt _ _ := wt_same rfl rfl
  withRetryCounter _ _ := wt_same rfl rfl
  established s := wt_emit s _ fun _ _ h => nomatch h
  setDisconnected _ _ := wt_same rfl rfl
  closing _ _ := wt_same rfl rfl
  lose s _ := wt_emit s _ fun _ _ h => nomatch h
  bumpSent _ _ _ := wt_same rfl rfl
  write s i b hp := ⟨OutsExt.emit s _ fun _ _ e => by cases e; exact hp, rfl⟩
  escaped s := wt_emit s _ fun _ _ h => nomatch h
  bumpRecv _ _ _ := wt_same rfl rfl
  note s o ho := wt_emit s o fun _ _ e => by subst e; cases ho
  withRemote _ _ := wt_same rfl rfl
  setAsn4 _ _ := wt_same rfl rfl
  withHoldTime _ _ := wt_same rfl rfl
  withAllow _ _ := wt_same rfl rfl
  withEstab _ _ := wt_same rfl rfl
  withPending _ _ := wt_same rfl rfl
  closed _ _ := wt_same rfl rfl
  addConn _ := wt_same rfl rfl
  ctl s o ho := wt_emit s o fun _ _ e => by subst e; cases ho
  advance _ _ := wt_same rfl rfl

theorem wt_sendOpen (s : Sess) : WT s s.sendOpen.1 := by
  unfold sendOpen
  cases hp : s.proto with
  | none => exact WT.refl s
  | some i =>
    cases hw : s.openWire with
    | none => exact wt_same rfl rfl
    | some w =>
      simp only
      have h1 : WT s (s.withLocalCaps (negotiateCaps s.localCaps s.remote)) := wt_same rfl rfl
      exact ((h1.trans (wt_steps.writeOn _ i w hp)).trans (wt_steps.bumpSent _ i incOpens)).trans
        (wt_emit _ (.hSendOpen i s.cfg.localAs s.cfg.holdCfg (s.bgpId.getD 0)) fun _ _ h => nomatch h)

theorem wt_connectionMade (s : Sess) : WT s s.connectionMade := by
  have sent : WT s ((s.setRetry none).setIdleHold none).sendOpen.1 :=
    ((wt_steps.setRetry s _).trans (wt_steps.idleStop _ _ _ _)).trans (wt_sendOpen _)
  unfold connectionMade
  split
  · exact (sent.trans (wt_steps.setHold _ _)).trans (wt_steps.setSt _ _)
  · exact sent

theorem writes_of_wt {s0 s' : Sess} (h0 : s0.outs = []) (h : WT s0 s') :
    ∀ c b, Out.write c b ∈ s'.outs → s'.proto = some c := by
  intro c b hm
  obtain ⟨ext, e, p⟩ := h.ext
  rw [e, h0] at hm
  simp only [List.nil_append] at hm
  rw [h.proto]
  exact p _ hm c b rfl

/-- Every message the agent sends goes to the connection its state machine is tracking: for EVERY state and EVERY
    event, each BGP message written during the handling of the event is written to the connection that
    `FSM.protocol` designates when the handling ends. -/
theorem C12_writes_to_tracked (w : World) (e : Ev) (c : Nat) (b : Bytes)
    (h : Out.write c b ∈ (step U w e).sess.outs) : (step U w e).sess.proto = some c := by
  by_cases hk : ∃ k, e = .connOk k
  · -- the connection becomes the tracked one before anything is written
    obtain ⟨k, rfl⟩ := hk
    simp only [step, connOk] at h ⊢
    have hpre : ((((((w.sess.withOuts []).setPhase k .connected).withProto (some k)).setSt .connect).withEstab (some k)).withBgpId
        (some ((w.sess.withOuts []).bgpId.getD (w.sess.withOuts []).cfg.localId))).outs = [] := by
      rw [setSt_of_ne _ (by decide)]
      rfl
    exact writes_of_wt hpre (wt_connectionMade _) c b h
  · exact writes_of_wt rfl (wt_steps.step U w e fun k hk' => hk ⟨k, hk'⟩) c b h

def liveCount (s : Sess) : Nat :=
  (s.conns.filter fun c => c.phase = .connecting ∨ c.phase = .connected).length

/-- start, retry expiry and idle-hold expiry while an attempt is pending: one attempt in flight afterwards -/
theorem C12_regression_start_while_attempt_pending :
    liveCount (run exU (bootWorld exCfg) [.boot, .manualStop, .manualStart]).sess = 1 := by decide

theorem C12_regression_retry_while_attempt_pending :
    liveCount (run exU (bootWorld exCfg) [.boot, .advance 90, .fire .retry]).sess = 1 := by decide

theorem C12_regression_idlehold_after_late_connection_lost :
    liveCount (run exU (bootWorld exCfg)
      [.boot, .connOk 0, .chunk 0 exKeepalive, .advance 90, .fire .idleHold, .lost 0, .advance 90, .fire .idleHold]).sess = 1 := by
  decide

theorem live_core {s : Sess} {j : Nat} :
    Core.Live (core s) j ↔ (s.conn j).phase = .connecting ∨ (s.conn j).phase = .connected := by
  unfold Core.Live
  rw [core_conn]
  rfl

theorem Core.One.unique {s : Sess} (h : Core.One (core s)) {i j : Nat} (hi : i < s.conns.length) (hj : j < s.conns.length)
    (li : (s.conn i).phase = .connecting ∨ (s.conn i).phase = .connected)
    (lj : (s.conn j).phase = .connecting ∨ (s.conn j).phase = .connected) : i = j :=
  h.one i j ((len_core s).symm ▸ hi) ((len_core s).symm ▸ hj) (live_core.2 li) (live_core.2 lj)

theorem Core.One.tracked_sess {s : Sess} (h : Core.One (core s)) {j : Nat} (hj : j < s.conns.length)
    (hph : (s.conn j).phase = .connected) : s.proto = some j ∧ s.estab = some j ∧ s.st ≠ .idle :=
  h.tracked j ((len_core s).symm ▸ hj) (by rw [core_conn]; exact hph)

theorem Core.closed_of_not_live {c : Core} {j : Nat} (h : ¬ Core.Live c j) :
    (c.conn j).1 = .closing ∨ (c.conn j).1 = .closed := by
  cases hph : (c.conn j).1 with
  | connecting => exact absurd (Or.inl hph) h
  | connected => exact absurd (Or.inr hph) h
  | closing => exact Or.inl rfl
  | closed => exact Or.inr rfl

theorem one_first (cfg : Cfg) (e0 : Ev) (he0 : e0 = .boot ∨ e0 = .manualStart) :
    Core.One (core (step U (bootWorld cfg) e0).sess) ∧ Core.Pend (core (step U (bootWorld cfg) e0).sess) :=
  ⟨(skel_first U cfg e0 he0).one, (skel_first U cfg e0 he0).pend⟩

/-- `One`, `Pend` and `Heal` are closed under enabled steps together: a new attempt is the only live connection because
    the state it starts from has none (`Heal`), and it is the remembered one (`Pend`) -/
theorem one_heal_step (w : World) (e : Ev) (hen : enabled w.sess e = true)
    (h : (Core.One (core w.sess) ∧ Core.Pend (core w.sess)) ∧ Core.Heal (core w.sess)) :
    (Core.One (core (step U w e).sess) ∧ Core.Pend (core (step U w e).sess)) ∧ Core.Heal (core (step U w e).sess) :=
  core_step_inv U (fun c => (Core.One c ∧ Core.Pend c) ∧ Core.Heal c)
    (fun _ hc o ho => ⟨⟨Core.one_frameOutcome hc.1.1 o ho, Core.pend_frameOutcome hc.1.2 o ho⟩, Core.heal_frameOutcome hc.2 o ho⟩) w e hen
    (fun hc he o ho => ⟨Core.one_stepOutcome hc.1.1 hc.1.2 hc.2 e he o ho, Core.heal_stepOutcome hc.2 e he o ho⟩) h

theorem one_step (w : World) (e : Ev) (hen : enabled w.sess e = true)
    (h : Core.One (core w.sess)) (hp : Core.Pend (core w.sess)) (hh : Core.Heal (core w.sess)) :
    Core.One (core (step U w e).sess) ∧ Core.Pend (core (step U w e).sess) :=
  (one_heal_step U w e hen ⟨⟨h, hp⟩, hh⟩).1

theorem one_run (evs : List Ev) : ∀ (w : World), Core.One (core w.sess) → Core.Pend (core w.sess) → Core.Heal (core w.sess) →
    EnabledRun U w evs → Core.One (core (run U w evs).sess) ∧ Core.Pend (core (run U w evs).sess) :=
  fun w h hp hh =>
    run_induction U (one_heal_step U)
      (Q := fun w evs => Core.One (core (run U w evs).sess) ∧ Core.Pend (core (run U w evs).sess))
      (fun _ h => h.1) (fun _ _ _ _ _ h => h) evs w ⟨⟨h, hp⟩, hh⟩

theorem filter_length_le_one {α : Type} (p : α → Bool) : ∀ (l : List α),
    (∀ i j (hi : i < l.length) (hj : j < l.length), p l[i] = true → p l[j] = true → i = j) → (l.filter p).length ≤ 1
  | [], _ => Nat.zero_le 1
  | x :: r, h => by
    have ih := filter_length_le_one p r fun i j hi hj pi pj =>
      Nat.succ.inj (h (i + 1) (j + 1) (Nat.succ_lt_succ hi) (Nat.succ_lt_succ hj) pi pj)
    by_cases hx : p x = true
    · -- the head is live: nothing in the tail is
      have hnone : r.filter p = [] :=
        List.filter_eq_nil_iff.2 fun y hy hpy => by
          obtain ⟨k, hk, rfl⟩ := List.getElem_of_mem hy
          exact Nat.succ_ne_zero k (h 0 (k + 1) (Nat.succ_pos _) (Nat.succ_lt_succ hk) hx hpy).symm
      rw [List.filter_cons_of_pos hx, hnone]
      exact Nat.le_refl 1
    · rw [List.filter_cons_of_neg hx]
      exact ih

/-- **At most one connection or attempt, none left open and unreferenced** - in every state reachable after the agent's
    start by any sequence of events the environment can produce. -/
theorem C12_at_most_one (cfg : Cfg) (e0 : Ev) (he0 : e0 = .boot ∨ e0 = .manualStart) (evs : List Ev)
    (hc : EnabledRun U (step U (bootWorld cfg) e0) evs) :
    liveCount (run U (bootWorld cfg) (e0 :: evs)).sess ≤ 1 ∧
    (∀ j, j < (run U (bootWorld cfg) (e0 :: evs)).sess.conns.length →
      ((run U (bootWorld cfg) (e0 :: evs)).sess.conn j).phase = .connected →
      (run U (bootWorld cfg) (e0 :: evs)).sess.proto = some j) ∧
    (∀ j, j < (run U (bootWorld cfg) (e0 :: evs)).sess.conns.length →
      ((run U (bootWorld cfg) (e0 :: evs)).sess.conn j).phase = .connecting →
      (run U (bootWorld cfg) (e0 :: evs)).sess.pending = some j) := by
  have hk := skel_of_run U cfg e0 he0 evs hc
  generalize (run U (bootWorld cfg) (e0 :: evs)).sess = s at hk
  obtain ⟨-, hone, hpend, -⟩ := hk
  refine ⟨?_, fun j hj hph => (hone.tracked_sess hj hph).1,
    fun j hj hph => hpend j ((len_core s).symm ▸ hj) (by rw [core_conn]; exact hph)⟩
  have live : ∀ i (hi : i < s.conns.length),
      decide (s.conns[i].phase = .connecting ∨ s.conns[i].phase = .connected) = true →
      (s.conn i).phase = .connecting ∨ (s.conn i).phase = .connected := by
    intro i hi h
    have e : s.conn i = s.conns[i] := by simp [Sess.conn, List.getD_eq_getElem?_getD, hi]
    rw [e]
    exact of_decide_eq_true h
  exact filter_length_le_one _ _ fun i j hi hj pi pj => hone.unique hi hj (live i hi pi) (live j hj pj)

end Yabgp

#print axioms Yabgp.C12_writes_to_tracked
#print axioms Yabgp.C12_regression_start_while_attempt_pending
#print axioms Yabgp.C12_at_most_one
