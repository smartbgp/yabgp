/- C01: the per-event theorems (Props/C01.lean), their applicability to every reachable session state (Props/C01b.lean),
   no hold / keepalive timer left over when a session has ended (Props/C01c.lean). -/
import Yabgp.Props.C01
import Yabgp.Props.C01b
import Yabgp.Props.C01c
