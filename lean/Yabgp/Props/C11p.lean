/-
  C11 for the PMSI tunnel decoder (Model/Pmsi.lean, straight-line code: termination is by construction, the theorems
  say exactly WHEN it raises - every such exception is caught by Update.parse_attributes - and what it returns).
-/
import Yabgp.Model.Pmsi

namespace Yabgp
open Yabgp.Mp Yabgp.Pmsi

theorem C11_pmsi_tunnel_id_raises_iff (t : Nat) (d : Bytes) :
    parseTunnelId t d = none ↔ t = 6 ∧ (d = [] ∨ p128 ≤ beVal d) := by
  unfold parseTunnelId
  by_cases h0 : t = 0
  · subst h0; simp
  · rw [if_neg h0]
    by_cases h6 : t = 6
    · subst h6
      simp only [if_true, true_and]
      unfold intOfBytes
      by_cases hd : d = []
      · simp [hd]
      · rw [if_neg hd]
        simp only [hd, false_or]
        unfold ipOfInt
        by_cases h32 : beVal d < p32
        · have : beVal d < p128 := by unfold p32 at h32; unfold p128; omega
          simp [h32]; omega
        · rw [if_neg h32]
          by_cases h128 : beVal d < p128
          · simp [h128]
          · simp [h128]; omega
    · rw [if_neg h6]; simp [h6]

/-- **C11 (PMSI)**: the exact set of values on which `PMSITunnel.parse` raises: fewer than the five fixed octets, or
    tunnel type 6 with an empty identifier or one of 2^128 or more.  On every other value it returns. -/
theorem C11_pmsi_raises_iff (evpn : Bool) (v : Bytes) :
    parse evpn v = none ↔
      v.length < 5 ∨ ((v.getD 1 0).toNat = 6 ∧ (v.length = 5 ∨ p128 ≤ beVal (v.drop 5))) := by
  match v with
  | [] | [_] | [_, _] | [_, _, _] | [_, _, _, _] => simp [parse]
  | f :: t :: a :: b :: c :: d =>
    have hp : parse evpn (f :: t :: a :: b :: c :: d) = none ↔ parseTunnelId t.toNat d = none := by
      rw [parse]; cases parseTunnelId t.toNat d <;> simp
    rw [hp, C11_pmsi_tunnel_id_raises_iff]
    simp [List.length_eq_zero_iff]
    omega

/-- what it returns: the first two octets as they are, the 24 label bits (shifted by 4 unless EVPN overlay), and for
    every tunnel type other than 0 and 6 the text 'not supported' whatever follows -/
theorem C11_pmsi_fields (evpn : Bool) (f t a b c : UInt8) (d : Bytes) (r : Val)
    (h : parse evpn (f :: t :: a :: b :: c :: d) = some r) :
    r.leaf = f.toNat ∧ r.ttype = t.toNat ∧ r.label = labelOf evpn a b c ∧
    (t.toNat = 0 → r.tid = .absent) ∧ (t.toNat ≠ 0 → t.toNat ≠ 6 → r.tid = .notSupported) := by
  simp only [parse] at h
  cases hp : parseTunnelId t.toNat d with
  | none => rw [hp] at h; cases h
  | some tid =>
    rw [hp] at h
    simp only [Option.some.injEq] at h
    subst h
    refine ⟨rfl, rfl, rfl, ?_, ?_⟩
    · intro h0; simp [parseTunnelId, h0] at hp; exact hp.symm
    · intro h0 h6; simp [parseTunnelId, h0, h6] at hp; exact hp.symm

/-- the decoder never looks at the length of the identifier: a 16-octet (IPv6) identifier below 2^32 comes back as an
    IPv4 address - transcribed as the code is, and compared with the code by the `decoders` suite -/
example : parse false ([0, 6, 0, 1, 0x01] ++ zeros 15 ++ [1]) = some ⟨0, 6, 16, .ip (.v4 1)⟩ := by decide

example : parse true [1, 0, 0, 0, 100] = some ⟨1, 0, 100, .absent⟩ := by decide
example : parse false [0, 6, 0, 0, 0] = none := by decide
example : parse false [0, 7, 0, 0, 0, 9, 9] = some ⟨0, 7, 0, .notSupported⟩ := by decide

end Yabgp

#print axioms Yabgp.C11_pmsi_tunnel_id_raises_iff
#print axioms Yabgp.C11_pmsi_raises_iff
#print axioms Yabgp.C11_pmsi_fields
