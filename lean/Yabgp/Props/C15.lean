/-
  C15 — list decoders are compositional; attribute order is irrelevant; an unknown element between known
  ones changes nothing for the others.  This file: the list kinds of the UPDATE and OPEN models (IPv4
  prefix lists, communities, cluster lists, large communities, AS_PATH segments, OPEN capabilities and
  optional parameters, path attributes).  The multiprotocol kinds are in Props/C07a and C07b, the TLV kinds in
  Props/C15b; they are imported here so that this is the one module to name for C15.
-/
import Yabgp.Lemmas.Compose
import Yabgp.Props.C09
import Yabgp.Props.C07a
import Yabgp.Props.C07b
import Yabgp.Props.C15b
import Yabgp.Props.C11b

namespace Yabgp
open Spec

/-- IPv4 prefix lists (NLRI and withdrawn routes, with or without add-path ids, any trailing bits):
    decoding `a ‖ b` where `a` encodes the prefixes `ps` gives `ps` followed by the decoding of `b` -
    whatever `b` is, including an undecodable one -/
theorem C15_ipv4_prefixes (addpath : Bool) (ps : List RefPfx) (b : Bytes) (hok : ∀ p ∈ ps, RefPfxOk addpath p) :
    parsePrefixList addpath (ps.flatMap refPfx ++ b) =
      (parsePrefixList addpath b).map (ps.map RefPfx.toPfx ++ ·) :=
  parsePrefixList_ref addpath ps b hok

/-- the symmetric reading: two well-formed encodings -/
theorem C15_ipv4_prefixes_concat (addpath : Bool) (ps qs : List RefPfx)
    (hp : ∀ p ∈ ps, RefPfxOk addpath p) (hq : ∀ p ∈ qs, RefPfxOk addpath p) :
    parsePrefixList addpath (ps.flatMap refPfx ++ qs.flatMap refPfx) =
      some (ps.map RefPfx.toPfx ++ qs.map RefPfx.toPfx) := by
  rw [C15_ipv4_prefixes addpath ps _ hp, parsePrefixList_ref_all addpath qs hq]; rfl

/-- the same for the agent's own encoder -/
theorem C15_ipv4_prefixes_own (addpath : Bool) (ps : List Pfx) (w b : Bytes)
    (hok : ∀ p ∈ ps, PfxOk addpath p) (hc : constructPrefixV4 addpath ps = some w) :
    parsePrefixList addpath (w ++ b) = (parsePrefixList addpath b).map (ps ++ ·) :=
  parsePrefixList_enc addpath ps w b hok hc

/-- COMMUNITIES: for ANY two value strings of whole 4-octet entries -/
theorem C15_communities (a b : Bytes) (ha : a.length % 4 = 0) (hb : b.length % 4 = 0) :
    parseCommunity (a ++ b) = .ok (.community (words32 a ++ words32 b)) ∧
    parseCommunity a = .ok (.community (words32 a)) ∧ parseCommunity b = .ok (.community (words32 b)) := by
  have hab : (a.length + b.length) % 4 = 0 := by rw [Nat.add_mod, ha, hb]
  simp [parseCommunity, ha, hb, hab, words32_append a b ha]

theorem C15_cluster_list (a b : Bytes) (ha : a.length % 4 = 0) (hb : b.length % 4 = 0) :
    parseClusterList (a ++ b) = .ok (.clusterList (words32 a ++ words32 b)) ∧
    parseClusterList a = .ok (.clusterList (words32 a)) ∧ parseClusterList b = .ok (.clusterList (words32 b)) := by
  have hab : (a.length + b.length) % 4 = 0 := by rw [Nat.add_mod, ha, hb]
  simp [parseClusterList, ha, hb, hab, words32_append a b ha]

/-- LARGE_COMMUNITY: whole 12-octet entries -/
theorem C15_large_communities (a b : Bytes) (ha : a.length % 12 = 0) (hb : b.length % 12 = 0) :
    parseLargeCommunity (a ++ b) = .ok (.largeCommunity (triples (words32 a) ++ triples (words32 b))) ∧
    parseLargeCommunity a = .ok (.largeCommunity (triples (words32 a))) ∧
    parseLargeCommunity b = .ok (.largeCommunity (triples (words32 b))) := by
  have hab : (a.length + b.length) % 12 = 0 := by rw [Nat.add_mod, ha, hb]
  have h4 : a.length % 4 = 0 := by omega
  have h3 : (words32 a).length % 3 = 0 := by rw [words32_length]; omega
  simp [parseLargeCommunity, ha, hb, hab, words32_append a b h4, triples_append _ _ h3]

/-- AS_PATH / AS4_PATH segments, either AS width -/
theorem C15_aspath_segments (four : Bool) (xs : List (Nat × List Nat)) (b : Bytes) (hs : ∀ s ∈ xs, SegOk four s) :
    parseAsPath four (segsWire four xs ++ b) = (parseAsPath four b).map (xs ++ ·) :=
  parseAsPath_append four xs b hs

/-- OPEN capabilities: ANY capability TLVs (known or unknown codes, any bodies): decoding `a ‖ b` is decoding
    `a`'s capabilities one after the other, then `b` from the resulting dictionary -/
theorem C15_open_capabilities (caps : List (Nat × Bytes)) (b : Bytes) (st : Nat × CapaDict)
    (h : ∀ c ∈ caps, c.1 < 256 ∧ c.2.length < 256) :
    capsLoop st (caps.flatMap rawCap ++ b) =
      match applyCaps st caps with
      | .ok st' => capsLoop st' b
      | .error e => .error e :=
  capsLoop_append caps b st h

/-- OPEN optional parameters: grouping capabilities into parameters is irrelevant -/
theorem C15_open_parameters (params : List (List (Nat × Bytes))) (b : Bytes) (st : Nat × CapaDict)
    (h : ∀ p ∈ params, (∀ c ∈ p, c.1 < 256 ∧ c.2.length < 256) ∧ (p.flatMap rawCap).length < 256) :
    optParasLoop st (params.flatMap rawParam ++ b) =
      match applyCaps st params.flatten with
      | .ok st' => optParasLoop st' b
      | .error e => .error e :=
  optParasLoop_append params b st h

/-- an unknown capability between known ones changes nothing but the list of unknown capabilities -/
theorem C15_unknown_capability (asn : Nat) (d : CapaDict) (code : Nat) (v : Bytes)
    (h : code ∉ [65, 1, 2, 128, 64, 131, 70, 69, 71, 5]) :
    applyCap asn d code v = .ok (asn, { d with unknown := unknownSet d.unknown code v }) := by
  simp only [List.mem_cons, List.not_mem_nil, or_false, not_or] at h
  simp [applyCap, h]

/-- path attributes: whatever order the (distinct) attributes of an UPDATE come in, every attribute decodes to
    the same value and no error is flagged -/
theorem C15_attr_perm (asn4 : Bool) (as bs : List RefAttr) (hp : as.Perm bs)
    (hok : ∀ a ∈ as, a.code < 256 ∧ AttrOkR asn4 a.code a.val ∧ (refValue asn4 a.code a.val).length < 65536)
    (hnd : (as.map (·.code)).Nodup) :
    (parseAttributes asn4 (as.flatMap (refAttr asn4))).2 = none ∧
    (parseAttributes asn4 (bs.flatMap (refAttr asn4))).2 = none ∧
    ∀ k, dictGet (parseAttributes asn4 (as.flatMap (refAttr asn4))).1 k =
         dictGet (parseAttributes asn4 (bs.flatMap (refAttr asn4))).1 k := by
  have hokb : ∀ a ∈ bs, a.code < 256 ∧ AttrOkR asn4 a.code a.val ∧ (refValue asn4 a.code a.val).length < 65536 :=
    fun a ha => hok a (hp.mem_iff.mpr ha)
  have hndb : (bs.map (·.code)).Nodup := (hp.map _).nodup_iff.mp hnd
  have hA := attrLoop_ref asn4 as [] hok (by simpa [keys] using hnd)
  have hB := attrLoop_ref asn4 bs [] hokb (by simpa [keys] using hndb)
  simp only [parseAttributes, hA, hB, List.nil_append, true_and]
  intro k
  apply dictGet_perm (hp.map _)
  rw [List.map_map]
  exact hnd

/-- an attribute of a type the agent does not know, inserted anywhere, is kept as opaque octets and every other
    attribute decodes to what it decodes to without it -/
theorem C15_unknown_attr_inserted (asn4 : Bool) (as bs : List RefAttr) (u : RefAttr) (body : Bytes)
    (hu : u.code ∉ knownCodes) (huc : u.code < 256) (hv : u.val = .raw body) (hl : body.length < 65536)
    (hok : ∀ a ∈ as ++ bs, a.code < 256 ∧ AttrOkR asn4 a.code a.val ∧ (refValue asn4 a.code a.val).length < 65536)
    (hnd : ((as ++ u :: bs).map (·.code)).Nodup) :
    parseAttributes asn4 ((as ++ u :: bs).flatMap (refAttr asn4)) =
      (as.map (fun a => (a.code, a.val)) ++ (u.code, .raw body) :: bs.map (fun a => (a.code, a.val)), none) ∧
    parseAttributes asn4 ((as ++ bs).flatMap (refAttr asn4)) =
      (as.map (fun a => (a.code, a.val)) ++ bs.map (fun a => (a.code, a.val)), none) := by
  have hok' : ∀ a ∈ as ++ u :: bs,
      a.code < 256 ∧ AttrOkR asn4 a.code a.val ∧ (refValue asn4 a.code a.val).length < 65536 := by
    intro a ha
    simp only [List.mem_append, List.mem_cons] at ha
    rcases ha with ha | rfl | ha
    · exact hok a (by simp [ha])
    · refine ⟨huc, Or.inr (Or.inr (Or.inr ⟨hu, body, hv⟩)), ?_⟩
      simp [hv, refValue, hl]
    · exact hok a (by simp [ha])
  have hnd2 : ((as ++ bs).map (·.code)).Nodup := by
    simp only [List.map_append, List.map_cons] at hnd ⊢
    exact hnd.sublist (List.Sublist.append_left (List.sublist_cons_self _ _) _)
  have h1 := attrLoop_ref asn4 (as ++ u :: bs) [] hok' (by simpa [keys] using hnd)
  have h2 := attrLoop_ref asn4 (as ++ bs) [] hok (by simpa [keys] using hnd2)
  simp only [parseAttributes, h1, h2, List.nil_append, List.map_append, List.map_cons, hv, and_self]

/-! non-vacuity -/
example : parsePrefixList false ((exNlri.map fun p => { p with pathId := none }).flatMap refPfx ++ [24, 10, 1, 2]) =
    some [{ addr := 167772160, len := 9 }, { addr := 0, len := 0 }, { addr := 167838208, len := 24 }] := by
  rw [C15_ipv4_prefixes false _ _ (by intro p hp; simp [exNlri] at hp; rcases hp with rfl | rfl <;> simp [RefPfxOk])]
  have : parsePrefixList false [24, 10, 1, 2] = some [{ addr := 167838208, len := 24 }] := by
    rw [parsePrefixList_cons]; simp [stepPrefix, parseOnePrefix, pfxOctets, pfxData, addrOf, parsePrefixList_nil]
  rw [this]; rfl

example := C15_attr_perm false exAttrs exAttrs.reverse (List.reverse_perm _).symm exValid.hattrs exValid.nodup

end Yabgp

#print axioms Yabgp.C15_ipv4_prefixes
#print axioms Yabgp.C15_ipv4_prefixes_concat
#print axioms Yabgp.C15_communities
#print axioms Yabgp.C15_cluster_list
#print axioms Yabgp.C15_large_communities
#print axioms Yabgp.C15_aspath_segments
#print axioms Yabgp.C15_open_capabilities
#print axioms Yabgp.C15_open_parameters
#print axioms Yabgp.C15_unknown_capability
#print axioms Yabgp.C15_attr_perm
#print axioms Yabgp.C15_unknown_attr_inserted
