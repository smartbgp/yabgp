/-
  C03, deadlines move only for the right reason.
  The invariant `TimInv` of Props/C03.lean bounds the two session deadlines (KEEPALIVE due by now + H/3, hold deadline
  by now + H) but it would survive an event that keeps pushing a deadline later.  This file closes that gap with
  one-step statements over `step`: while the session stays in OpenConfirm / Established
    * the keepalive deadline is replaced by the keepalive-timer expiry only, which writes a KEEPALIVE and schedules
      the next one exactly H/3 later;
    * the hold deadline is replaced only by a chunk in which a KEEPALIVE or an UPDATE was handed to the FSM, and then
      it is exactly H after that moment;
    * every other event leaves both deadlines (and the negotiated hold time) alone, and the clock never passes a
      pending deadline.
  Time unit: ticks of 1/3 s, so H seconds = 3 * holdTime ticks and H/3 seconds = holdTime ticks.
-/
import Yabgp.Props.C01c
import Yabgp.Props.C03
import Yabgp.Props.C18b

namespace Yabgp
open Sess

variable (U : Bool → Bytes → UpdClass)

def kaWritten (outs : List Out) : Prop := ∃ i, Out.write i constructKeepalive ∈ outs

/-- the step reported an arrival that restarts the hold timer: a KEEPALIVE or an UPDATE (well-formed or malformed) was
    handed to the FSM.  (`dispatch` calls `fsmKeepaliveReceived` only after `.hKeepalive`, `fsmUpdateReceived` only after
    `.hUpdate` / `.hUpdateError`; an UPDATE whose decoding raises, or whose family is outside the model (`.unmodelled`),
    is counted and skipped without reaching the FSM, so it is NOT an arrival here.) -/
def arrivalReported (outs : List Out) : Prop :=
  ∃ o ∈ outs, (∃ c, o = .hKeepalive c) ∨ (∃ c a b, o = .hUpdate c a b) ∨ (∃ c b, o = .hUpdateError c b)

/-- the same with the name the frame lemmas use (`Frame.restarted`, Lemmas/TimerMoves.lean) -/
theorem arrivalReported_iff {outs : List Out} : arrivalReported outs ↔ ∃ o ∈ outs, Arrival o := .rfl

theorem arrivalReported_append {l : List Out} (h : arrivalReported l) (m : List Out) : arrivalReported (l ++ m) := by
  obtain ⟨o, ho, hp⟩ := h
  exact ⟨o, List.mem_append_left m ho, hp⟩

/-- What `Move` fixes is what a session looks at; a connection coming up ends in Connect or OpenSent. -/
theorem session_step (w : World) (e : Ev) (h2 : ∀ c d, e ≠ .chunk c d) (hs' : inSession (step U w e).sess.st) :
    inSession w.sess.st ∧ (step U w e).sess.holdTime = w.sess.holdTime ∧ (step U w e).sess.tm.hold = w.sess.tm.hold ∧
      (e ≠ .fire .keepalive → (step U w e).sess.tm.keepalive = w.sess.tm.keepalive) := by
  by_cases h3 : ∃ dt, e = .advance dt
  · obtain ⟨dt, rfl⟩ := h3
    exact ⟨hs', rfl, rfl, fun _ => rfl⟩
  by_cases h1 : e = .fire .keepalive
  · subst h1
    rcases fireKeepalive_cases (w.sess.withOuts []) with m | ⟨a, b, _, d, _⟩
    · exact absurd hs' (Resting.not_inSession m.st)
    · exact ⟨a ▸ hs', b, d, fun h => absurd rfl h⟩
  by_cases hc : ∃ c, e = .connOk c
  · obtain ⟨c, rfl⟩ := hc
    rcases (connOk_cases (w.sess.withOuts []) c).2.2.2.2.2 with h | h <;>
    · have e1 : (step U w (.connOk c)).sess.st = _ := h.1
      simp [e1, inSession] at hs'
  · rcases weak_step U w e (fun c h => hc ⟨c, h⟩) h1 h2 (fun dt h => h3 ⟨dt, h⟩) with f | r
    · exact ⟨f.st ▸ hs', f.holdTime, f.hold, fun _ => f.ka⟩
    · exact absurd hs' (Resting.not_inSession r)

/-- from `s` to `s'` by frames of one chunk -/
structure Acc (s s' : Sess) : Prop where
  nos : s'.st ≠ .openSent
  keep : inSession s'.st → inSession s.st ∧ s'.holdTime = s.holdTime ∧ s'.now = s.now ∧
    s'.tm.keepalive = s.tm.keepalive ∧ (∃ l, s'.outs = s.outs ++ l) ∧
    (s'.tm.hold = s.tm.hold ∨
      (arrivalReported s'.outs ∧ s'.tm.hold = some (s.now + 3 * s.holdTime) ∧ 0 < s.holdTime))

theorem Acc.same {s s' : Sess} (hs : s.st ≠ .openSent) (h1 : s'.st = s.st) (h2 : s'.holdTime = s.holdTime)
    (h3 : s'.now = s.now) (h4 : s'.tm = s.tm) (h5 : ∃ l, s'.outs = s.outs ++ l) : Acc s s' :=
  ⟨by rw [h1]; exact hs, fun hi => ⟨by rw [← h1]; exact hi, h2, h3, by rw [h4], h5, Or.inl (by rw [h4])⟩⟩

theorem Acc.refl {s : Sess} (hs : s.st ≠ .openSent) : Acc s s := Acc.same hs rfl rfl rfl rfl ⟨[], by simp⟩

theorem Acc.trans {a b c : Sess} (h1 : Acc a b) (h2 : Acc b c) : Acc a c := by
  refine ⟨h2.nos, fun hs => ?_⟩
  obtain ⟨hb, e1, e2, e3, ⟨l2, e4⟩, e5⟩ := h2.keep hs
  obtain ⟨ha, f1, f2, f3, ⟨l1, f4⟩, f5⟩ := h1.keep hb
  refine ⟨ha, e1.trans f1, e2.trans f2, e3.trans f3, ⟨l1 ++ l2, by rw [e4, f4, List.append_assoc]⟩, ?_⟩
  rcases e5 with e5 | ⟨r, e5, p⟩
  · rcases f5 with f5 | ⟨r, f5, p⟩
    · exact Or.inl (e5.trans f5)
    · exact Or.inr ⟨by rw [e4]; exact arrivalReported_append r _, e5.trans f5, p⟩
  · exact Or.inr ⟨r, by rw [e5, f1, f2], by rw [← f1]; exact p⟩

theorem Acc.of_frame {s s' : Sess} (hs : s.st ≠ .openSent) (f : Frame s s') : Acc s s' := by
  cases f with
  | skip a b c d e => exact .same hs a c d b e
  | ended e => exact ⟨e.st.ne.1, fun hi => absurd hi (Resting.not_inSession e.st)⟩
  | opened a => exact absurd a hs
  | restarted h a b c d e o r =>
    refine ⟨by simp [a], fun _ => ⟨h, b, c, d, o, ?_⟩⟩
    by_cases hh : s.holdTime = 0
    · exact Or.inl (by simpa [hh] using e)
    · exact Or.inr ⟨arrivalReported_iff.2 r, by simpa [hh] using e, by omega⟩

theorem acc_chunk (w : World) (c : Nat) (d : Bytes) (hs : inSession w.sess.st) :
    Acc (w.sess.withOuts []) (step U w (.chunk c d)).sess :=
  -- `Acc` is not reflexive in OpenSent (an accepted OPEN would start both timers), so it is carried under the premise
  -- that OpenSent is not the state, which `nos` of one frame provides for the next
  drain_rel U (R := fun s s' => s.st ≠ .openSent → Acc s s') c (fun _ => Acc.refl) (fun h1 h2 h => (h1 h).trans (h2 (h1 h).nos))
    (fun s buf hs => .of_frame hs (frame_parseBuffer U s c buf)) _ _ _
    (show w.sess.st ≠ .openSent by rcases hs with h | h <;> simp [h])

/-- **While the session lasts the pending KEEPALIVE deadline is only ever replaced by the keepalive timer expiring**, at
    which moment a KEEPALIVE is written and the next one is scheduled exactly H/3 later.  In particular a received
    KEEPALIVE (or anything else) does not push the agent's own KEEPALIVE back.
    `Heal` (reachable-state invariant of C02: in a session state the tracked connection is up) is what makes the write
    happen; `TimInv` (Props/C03.lean, holds in every reachable state) excludes a keepalive timer running with H = 0. -/
theorem C03_keepalive_deadline_moves_only_when_sent (w : World) (e : Ev) (hen : enabled w.sess e = true)
    (hh : Core.Heal (core w.sess)) (ht : TimInv w.sess) :
    inSession w.sess.st → inSession (step U w e).sess.st → (step U w e).sess.tm.keepalive ≠ w.sess.tm.keepalive →
      e = .fire .keepalive ∧ kaWritten (step U w e).sess.outs ∧
      (step U w e).sess.tm.keepalive = some (w.sess.now + w.sess.holdTime) := by
  intro hs hs' hne
  by_cases hk : e = .fire .keepalive
  · subst hk
    refine ⟨rfl, ?_⟩
    have hh0 : Core.Heal (core (w.sess.withOuts [])) := hh
    obtain ⟨i, hn⟩ := norm_of_heal hh0 (.inr hs)
    obtain ⟨ho, _, hka, _⟩ := C01_keepalive_timer_expires hn (show (w.sess.withOuts []).st = .openConfirm ∨ _ from hs)
    have hpos : 0 < w.sess.holdTime := by
      rcases Nat.eq_zero_or_pos w.sess.holdTime with h0 | h0
      · have := ((ht hs).2 h0).1
        simp [enabled, timerOf, this] at hen
      · exact h0
    have hka' : (step U w (.fire .keepalive)).sess.tm.keepalive = some (w.sess.now + w.sess.holdTime) := by
      show ((w.sess.withOuts []).fireKeepalive).tm.keepalive = _
      rw [hka]
      exact if_pos hpos
    refine ⟨⟨i, ?_⟩, hka'⟩
    show _ ∈ ((w.sess.withOuts []).fireKeepalive).outs
    rw [ho]
    simp [withOuts]
  · by_cases h2 : ∃ c d, e = .chunk c d
    · obtain ⟨c, d, rfl⟩ := h2
      exact absurd ((acc_chunk U w c d hs).keep hs').2.2.2.1 hne
    · exact absurd ((session_step U w e (fun c d h => h2 ⟨c, d, h⟩) hs').2.2.2 hk) hne

/-- **While the session lasts the hold deadline is only ever replaced when a KEEPALIVE or an UPDATE arrived**, and then it
    is exactly H after that moment (H > 0).  No hypothesis on the state is needed. -/
theorem C03_hold_deadline_moves_only_on_arrival (w : World) (e : Ev) :
    inSession w.sess.st → inSession (step U w e).sess.st → (step U w e).sess.tm.hold ≠ w.sess.tm.hold →
      (∃ c d, e = .chunk c d) ∧ arrivalReported (step U w e).sess.outs ∧
      (step U w e).sess.tm.hold = some (w.sess.now + 3 * w.sess.holdTime) ∧ 0 < w.sess.holdTime := by
  intro hs hs' hne
  by_cases h2 : ∃ c d, e = .chunk c d
  · obtain ⟨c, d, rfl⟩ := h2
    exact ⟨⟨c, d, rfl⟩, ((acc_chunk U w c d hs).keep hs').2.2.2.2.2.resolve_left hne⟩
  exact absurd (session_step U w e (fun c d h => h2 ⟨c, d, h⟩) hs').2.2.1 hne

theorem C03_deadlines_fixed_by_other_events (w : World) (e : Ev) (h1 : e ≠ .fire .keepalive) (h2 : ∀ c d, e ≠ .chunk c d) :
    inSession w.sess.st → inSession (step U w e).sess.st →
      (step U w e).sess.tm.keepalive = w.sess.tm.keepalive ∧ (step U w e).sess.tm.hold = w.sess.tm.hold := by
  intro _ hs'
  have hk := session_step U w e h2 hs'
  exact ⟨hk.2.2.2 h1, hk.2.2.1⟩

/-- the negotiated hold time is fixed while the session lasts (a second OPEN is an FSM error) -/
theorem C03_hold_time_fixed_in_session (w : World) (e : Ev) :
    inSession w.sess.st → inSession (step U w e).sess.st → (step U w e).sess.holdTime = w.sess.holdTime := by
  intro hs hs'
  by_cases h2 : ∃ c d, e = .chunk c d
  · obtain ⟨c, d, rfl⟩ := h2; exact ((acc_chunk U w c d hs).keep hs').2.1
  exact (session_step U w e (fun c d h => h2 ⟨c, d, h⟩) hs').2.1

/-- the clock never passes a pending deadline: time can only advance up to the earliest running timer, which then has
    to fire before time moves on.  With `C03_keepalive_deadline_moves_only_when_sent` (the keepalive deadline stays put
    until it fires, and is then set H/3 later) and `C01_keepalive_timer_expires` (firing writes a KEEPALIVE):
    consecutive KEEPALIVEs of the agent are at most H/3 apart. -/
theorem C03_clock_never_passes_a_deadline (s : Sess) (dt : Nat) (h : enabled s (.advance dt) = true) :
    ∀ d ∈ allTimers s.tm, s.now + dt ≤ d := by
  simp only [enabled, Bool.decide_and, Bool.and_eq_true, decide_eq_true_eq, List.all_eq_true] at h
  exact h.2

theorem C03_clock_never_passes_session_deadlines (s : Sess) (dt : Nat) (h : enabled s (.advance dt) = true) :
    (∀ d, s.tm.keepalive = some d → s.now + dt ≤ d) ∧ (∀ d, s.tm.hold = some d → s.now + dt ≤ d) := by
  have key := C03_clock_never_passes_a_deadline s dt h
  constructor
  · intro d hd; exact key d (by simp [allTimers, hd])
  · intro d hd; exact key d (by simp [allTimers, hd])

/-! ### non-vacuity (example session of Props/C01.lean: H = 90 s, Established at tick 0, keepalive due at 90, hold at 270) -/

/-- Established, clock advanced to the keepalive deadline: the expiry is enabled, changes the keepalive deadline
    (90 → 180 = now + H/3), writes a KEEPALIVE to connection 0 and leaves the hold deadline alone -/
example :
    let w := step exU exEstablished (.advance 90)
    enabled exEstablished.sess (.advance 90) = true ∧ enabled w.sess (.fire .keepalive) = true ∧
    w.sess.st = .established ∧ (step exU w (.fire .keepalive)).sess.st = .established ∧
    w.sess.now = 90 ∧ w.sess.holdTime = 90 ∧
    w.sess.tm.keepalive = some 90 ∧ (step exU w (.fire .keepalive)).sess.tm.keepalive = some 180 ∧
    Out.write 0 constructKeepalive ∈ (step exU w (.fire .keepalive)).sess.outs ∧
    (step exU w (.fire .keepalive)).sess.tm.hold = w.sess.tm.hold := by
  intro w
  refine ⟨by decide, by decide, by decide, by decide, by decide, by decide, by decide, by decide, by decide, by decide⟩

/-- Established at tick 30: a received KEEPALIVE changes the hold deadline (270 → 300 = now + H), is reported, and does
    not touch the keepalive deadline -/
example :
    let w := step exU exEstablished (.advance 30)
    enabled w.sess (.chunk 0 exKeepalive) = true ∧
    w.sess.st = .established ∧ (step exU w (.chunk 0 exKeepalive)).sess.st = .established ∧
    w.sess.tm.hold = some 270 ∧ (step exU w (.chunk 0 exKeepalive)).sess.tm.hold = some 300 ∧
    Out.hKeepalive 0 ∈ (step exU w (.chunk 0 exKeepalive)).sess.outs ∧
    (step exU w (.chunk 0 exKeepalive)).sess.tm.keepalive = w.sess.tm.keepalive := by
  intro w
  refine ⟨by decide, by decide, by decide, by decide, by decide, by decide, by decide⟩

/-- the hypotheses of the first theorem are met there -/
example : inSession exEstablished.sess.st ∧ TimInv exEstablished.sess :=
  ⟨Or.inr (by decide), C03_contract_holds exU exCfg _⟩

end Yabgp

#print axioms Yabgp.C03_keepalive_deadline_moves_only_when_sent
#print axioms Yabgp.C03_hold_deadline_moves_only_on_arrival
#print axioms Yabgp.C03_deadlines_fixed_by_other_events
#print axioms Yabgp.C03_clock_never_passes_a_deadline
#print axioms Yabgp.C03_hold_time_fixed_in_session
#print axioms Yabgp.C03_clock_never_passes_session_deadlines
