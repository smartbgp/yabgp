/-
  C08, fourth part — the extended-communities constructor (Model/ExtComm.lean) behind the guard of the repaired code
  (Model/Construct/ExtCommGuard.lean): whatever it returns is one well-formed EXTENDED COMMUNITIES attribute whose
  value is a whole number of 8-octet communities.
-/
import Yabgp.Lemmas.WalkerLemmas
import Yabgp.Model.Construct.ExtCommGuard

namespace Yabgp
open Walker ExtComm

theorem constructBodyR_eq : constructBodyR = Mp.encAll constructOneR := by
  funext items
  induction items with
  | nil => rfl
  | cons i r ih => simp only [constructBodyR, Mp.encAll, ih]; rfl

/-- the guarded constructor adds 0 or 8 octets per item, so the value is a whole number of 8-octet communities -/
theorem constructBodyR_length (items : List Item) (b : Bytes) (h : constructBodyR items = some b) :
    b.length % 8 = 0 := by
  refine encAll_closed (P := fun b => b.length % 8 = 0) rfl (fun a c ha hc => ?_) constructOneR items
    (fun i _ a h1 => ?_) b (constructBodyR_eq ▸ h)
  · simp only [List.length_append]; omega
  · unfold constructOneR at h1
    split at h1
    · simp only [Option.ite_none_right_eq_some, Option.some.injEq] at h1
      obtain ⟨ha, rfl⟩ := h1
      omega
    · cases h1

theorem C08d_extcomm (cfg : Cfg) (items : List Item) (w : Bytes) (h : constructR items = .ok w) :
    Seq (attrItem cfg) w := by
  unfold constructR at h
  split at h
  · cases h
  · cases h
  · rename_i body _ hb
    split at h
    · rename_i hlen
      cases h
      have hl := constructBodyR_length items body hb
      exact seq_attr_short cfg C.fExtCommunity C.tExtCommunity body (by decide) hlen (by decide) (by decide)
        (by simp only [attrValueOk, C.tExtCommunity]; simpa using hl)
    · cases h

end Yabgp

#print axioms Yabgp.C08d_extcomm
