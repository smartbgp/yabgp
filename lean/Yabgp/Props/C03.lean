/-
  C03 — hold and keepalive timers keep exactly the negotiated contract.
  The per-event statements (KEEPALIVE sent and the timer re-armed at now + H/3; NOTIFICATION (4,0) + close on
  hold expiry; the hold timer restarted to now + H by every KEEPALIVE / UPDATE; timers set from
  min(configured, proposed) when the peer's OPEN is accepted; the 4-minute limit in OpenSent) are
  C01_keepalive_timer_expires, C01_hold_timer_expires, C01_keepalive_msg, C01_update_msg, C01_open_accepted and
  C01_tcp_connected.  This file adds the invariant that ties them together for EVERY schedule: in every state
  reachable by any event sequence, while the session is in OpenConfirm or Established, a KEEPALIVE is due within
  H/3 and the hold deadline lies within H — or, for H = 0, neither timer exists.
-/
import Yabgp.Lemmas.TimerMoves
import Yabgp.Props.C01

namespace Yabgp
open Sess

variable (U : Bool → Bytes → UpdClass)

def dueBy (t : Option Nat) (bound : Nat) : Prop :=
  match t with
  | some d => d ≤ bound
  | none => False

@[simp] theorem dueBy_some (d b : Nat) : dueBy (some d) b ↔ d ≤ b := Iff.rfl
@[simp] theorem dueBy_none (b : Nat) : dueBy none b ↔ False := Iff.rfl

theorem dueBy_mono {t : Option Nat} {a b : Nat} (h : dueBy t a) (hab : a ≤ b) : dueBy t b := by
  cases t <;> simp_all; omega

/-- the timer contract, as a state invariant (time in ticks of 1/3 s: H seconds = 3H ticks, H/3 seconds = H ticks) -/
def TimInv (s : Sess) : Prop :=
  (s.st = .openConfirm ∨ s.st = .established) →
    (0 < s.holdTime → dueBy s.tm.keepalive (s.now + s.holdTime) ∧ dueBy s.tm.hold (s.now + 3 * s.holdTime)) ∧
    (s.holdTime = 0 → s.tm.keepalive = none ∧ s.tm.hold = none)

theorem TimInv.of_not_session {s : Sess} (h : ¬ (s.st = .openConfirm ∨ s.st = .established)) : TimInv s :=
  fun hs => absurd hs h

theorem TimInv.of_idle {s : Sess} (h : s.st = .idle) : TimInv s :=
  TimInv.of_not_session (by simp [h])

theorem TimInv.of_core {s s' : Sess} (h : TimInv s) (h1 : s'.st = s.st) (h2 : s'.tm = s.tm) (h3 : s'.holdTime = s.holdTime)
    (h4 : s'.now = s.now) : TimInv s' := by
  unfold TimInv at *; rw [h1, h2, h3, h4]; exact h

def inSession (q : St) : Prop := q = .openConfirm ∨ q = .established

theorem Sess.Resting.not_inSession {q : St} (r : Resting q) : ¬ inSession q := fun h => h.elim r.ne.2.1 r.ne.2.2

structure Outer (s s' : Sess) : Prop where
  st : s'.st = s.st ∨ ¬ inSession s'.st
  hold : s'.holdTime = s.holdTime
  now : s'.now = s.now
  ka : s'.tm.keepalive = s.tm.keepalive
  hd : s'.tm.hold = s.tm.hold

theorem outer_of_st {s s' : Sess} (h : ¬ inSession s'.st) (h2 : s'.holdTime = s.holdTime) (h3 : s'.now = s.now)
    (h4 : s'.tm.keepalive = s.tm.keepalive) (h5 : s'.tm.hold = s.tm.hold) : Outer s s' := ⟨Or.inr h, h2, h3, h4, h5⟩

/-- what `Move` leaves to a session is what the contract is about -/
theorem TimInv.of_weak {s s' : Sess} (h : TimInv s) (hw : Fixed s s' ∨ Resting s'.st) : TimInv s' := by
  rcases hw with f | r
  · unfold TimInv at *
    rw [f.st, f.holdTime, f.now, f.ka, f.hold]; exact h
  · exact .of_not_session (Resting.not_inSession r)

/-- a frame keeps the contract: an accepted OPEN establishes it from the hold time just negotiated, an arrival in a
    session puts the hold deadline exactly H ahead -/
theorem TimInv.of_frame {s s' : Sess} (h : TimInv s) (f : Frame s s') : TimInv s' := by
  cases f with
  | skip a b c d _ => exact h.of_core a b c d
  | ended e => exact h.of_weak (Or.inr e.st)
  | opened _ a b c d =>
    intro _
    rw [b, c, d]
    by_cases hp : 0 < s'.holdTime
    · simp [hp]; omega
    · simp [hp]
  | restarted hs a b c d e _ _ =>
    intro _
    obtain ⟨p, z⟩ := h hs
    rw [b, c, d, e]
    exact ⟨fun hp => ⟨(p hp).1, by simp [Nat.ne_of_gt hp]⟩, fun h0 => by simpa [h0] using z h0⟩

theorem timInv_fireKeepalive {s : Sess} (h : TimInv s) : TimInv s.fireKeepalive := by
  rcases fireKeepalive_cases s with e | ⟨h1, h2, h3, h4, _, _, h5⟩
  · exact h.of_weak (Or.inr e.st)
  · unfold TimInv at *
    rw [h1, h2, h3, h4, h5]
    intro hs
    obtain ⟨p, z⟩ := h hs
    refine ⟨fun hp => ⟨by simp [hs, hp], (p hp).2⟩, fun h0 => ⟨by simp [h0], (z h0).2⟩⟩

theorem timInv_step (w : World) (e : Ev) (h : TimInv w.sess) : TimInv (step U w e).sess := by
  cases e with
  | connOk c =>
    -- ends in Connect or OpenSent
    apply TimInv.of_not_session
    rcases (connOk_cases (w.sess.withOuts []) c).2.2.2.2.2 with h | h <;>
    · have e1 : (step U w (.connOk c)).sess.st = _ := h.1
      simp [e1]
  | chunk c d =>
    -- `parse_buffer` by `parse_buffer`, each a `Frame`
    exact drain_rel U (R := fun s s' => TimInv s → TimInv s') c (fun _ => id) (fun h1 h2 h => h2 (h1 h))
      (fun s buf h => h.of_frame (frame_parseBuffer U s c buf)) _ _ _ (h.of_core rfl rfl rfl rfl)
  | advance dt =>
    -- the bounds move with the clock, the deadlines stay
    intro hs
    obtain ⟨h1, h2⟩ := h hs
    refine ⟨fun hp => ?_, h2⟩
    exact ⟨dueBy_mono (h1 hp).1 (show w.sess.now + w.sess.holdTime ≤ w.sess.now + dt + w.sess.holdTime by omega),
           dueBy_mono (h1 hp).2 (show w.sess.now + 3 * w.sess.holdTime ≤ w.sess.now + dt + 3 * w.sess.holdTime by omega)⟩
  | fire t =>
    cases t with
    | keepalive => exact timInv_fireKeepalive (h.of_core (s' := w.sess.withOuts []) rfl rfl rfl rfl)
    -- every other event leaves what the contract reads alone or ends the session
    | _ => exact h.of_weak (weak_step U w _ (fun _ => nofun) nofun (fun _ _ => nofun) (fun _ => nofun))
  | _ => exact h.of_weak (weak_step U w _ (fun _ => nofun) nofun (fun _ _ => nofun) (fun _ => nofun))

/-- the timer contract holds in every state reachable by any sequence of events from boot, for every
    configuration and every update decoder: all peer arrival schedules, bursts, same-instant orders of an
    expiry and an arrival, any number of sessions. -/
theorem C03_contract_holds (cfg : Cfg) (evs : List Ev) : TimInv (run U (bootWorld cfg) evs).sess := by
  have gen : ∀ (evs : List Ev) (w : World), TimInv w.sess → TimInv (run U w evs).sess := by
    intro evs
    induction evs with
    | nil => intro w h; exact h
    | cons e r ih => intro w h; exact ih _ (timInv_step U w e h)
  exact gen evs _ (TimInv.of_idle rfl)

end Yabgp

#print axioms Yabgp.C03_contract_holds
