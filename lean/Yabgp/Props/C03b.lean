/-
  C03, with REST requests in the history: asking the agent to send something (send/update, send/route-refresh,
  send/bin_update), to convert a message or to report its state does not touch the keepalive or the hold timer, so the
  timer contract of Props/C03.lean (a KEEPALIVE is due within H/3, the hold deadline is the last arrival + H) is not
  disturbed by whatever the application sends in between.  Only the operator commands manual-start / manual-stop,
  which are FSM events, change timers.
-/
import Yabgp.Props.C03
import Yabgp.Props.C16

namespace Yabgp
open Sess Rest C16

/-- **REST requests other than the operator's start / stop leave the timers alone** (and with them the state, the
    negotiated hold time and the clock the timer contract is stated over). -/
theorem C03_rest_keeps_timers (rc : RestCfg) (r : Route) (req : Request) (s : Sess)
    (hv : View.ofName r.view ≠ .manualStart ∧ View.ofName r.view ≠ .manualStop) :
    (handle rc r req s).2.tm = s.tm ∧ (handle rc r req s).2.st = s.st ∧ (handle rc r req s).2.holdTime = s.holdTime ∧
    (handle rc r req s).2.now = s.now := by
  rcases handle_cases rc r req s with ⟨e, _⟩ | ⟨e, _⟩
  · rw [e]; exact ⟨rfl, rfl, rfl, rfl⟩
  · rw [e, stripHead_snd]
    cases hsend : (View.ofName r.view).isSend
    · rcases runView_state _ req s hsend with e | ⟨e, _⟩ | ⟨e, _⟩
      · rw [e]; exact ⟨rfl, rfl, rfl, rfl⟩
      · exact absurd e hv.1
      · exact absurd e hv.2
    · -- a send is a write and a counter: neither is a timer, the state, the hold time or the clock
      rcases runView_send_state _ hsend req s with e | ⟨i, w, f, _, e⟩ <;> rw [e]
      · exact ⟨rfl, rfl, rfl, rfl⟩
      · exact ⟨by simp, by simp, by simp, by unfold writeOn; split <;> rfl⟩

theorem C03_contract_survives_rest (rc : RestCfg) (r : Route) (req : Request) (s : Sess) (h : TimInv s)
    (hv : View.ofName r.view ≠ .manualStart ∧ View.ofName r.view ≠ .manualStop) : TimInv (handle rc r req s).2 := by
  obtain ⟨h1, h2, h3, h4⟩ := C03_rest_keeps_timers rc r req s hv
  exact h.of_core h2 h1 h3 h4

end Yabgp

#print axioms Yabgp.C03_rest_keeps_timers
#print axioms Yabgp.C03_contract_survives_rest
