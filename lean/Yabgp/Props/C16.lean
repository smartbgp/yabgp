/-
  C16 — the REST control surface is authenticated and state-gated; sends are faithful.

  "Every REST endpoint that reveals or changes peer state rejects a request without valid credentials with 401 and no
   effect.  Endpoints that send BGP messages do nothing and report failure unless the session is Established, and a
   send reported successful has put exactly the requested message (plus only the documented default LOCAL_PREF on iBGP
   sessions) - and only it - on the wire of the current connection."

  Property theorems only (helper lemmas: Lemmas/RestLemmas.lean, Lemmas/RestInv.lean).  The theorems quantify over
  `genRoutes`, the url_map with the decorator chain of every view REGENERATED from /repo on every run
  (Gen/Routes.lean, harness/gen_routes.py): the table parts are closed by evaluation (`decide`, `rfl`) over that
  table, so a dropped or re-ordered decorator, a new rule, a rule that turns Flask's OPTIONS answer off or another
  authentication callback breaks a named obligation here.  Interpretive decisions (DESIGN Appendix C): for a method the rule does not accept
  werkzeug's 405 is admitted, and so is Flask's automatic, empty 200 answer to OPTIONS - both are given before any view
  code runs and reveal and change nothing; for every other request the answer without valid credentials is 401.
  Valid credentials = the configured user name and password (a password that is not ASCII is answered 401: /repo commit
  `fix: a non-ASCII password … is answered 401`).
-/
import Yabgp.Gen.Routes
import Yabgp.Lemmas.RestLemmas
import Yabgp.Lemmas.RestInv
import Yabgp.Props.C06

namespace Yabgp
open Rest Sess RestInv

def C16.ofGen (g : Gen.Routes.Route) : Route := ⟨g.rule, g.methods, g.autoOptions, g.decorators, g.view⟩

/-- the live url_map of yabgp.api.app with the decorator chains of yabgp/api/v1.py, as regenerated on this run -/
def C16.genRoutes : List Route := Gen.Routes.routes.map C16.ofGen

open C16

/-- the route table the model (and the driver) carries is the generated one -/
theorem C16_routes_agree : genRoutes = Rest.routes := by rfl

/-- the wrappers found around every live view function are exactly the decorators written below the route decorator,
    in that order, and no decorator is written above a route decorator (where it would never run) -/
theorem C16_chain_as_installed : ∀ g ∈ Gen.Routes.routes, g.live = g.decorators ∧ g.ineffective = [] := by decide

/-- One pass over the table for the three obligations below: a rule is either guarded - OPTIONS left to Flask,
    `login_required` outermost, view and decorators known to the model, a sending view also behind
    `makesure_peer_establish` - or it neither sends nor lies under /v1/peer/.  The guards are tested first, so that the
    text of a rule is looked at only where they fail and for the sending views: walking the characters of a rule is
    slow to check. -/
theorem C16_guard_table : ∀ r ∈ genRoutes,
    (r.autoOptions = true ∧ (r.decorators.map Deco.ofName).head? = some .loginRequired ∧
      View.ofName r.view ≠ .unknown ∧ Deco.unknown ∉ r.decorators.map Deco.ofName ∧
      ((View.ofName r.view).isSend = true →
        underPeer r = true ∧ Deco.makesureEstablished ∈ r.decorators.map Deco.ofName)) ∨
    ((View.ofName r.view).isSend = false ∧ underPeer r = false) := by decide

/-- every rule under /v1/peer/ leaves OPTIONS to Flask and has `login_required` as its outermost decorator -/
theorem C16_auth_table : ∀ r ∈ genRoutes, underPeer r = true →
    r.autoOptions = true ∧ (r.decorators.map Deco.ofName).head? = some .loginRequired := by
  intro r hr hp
  rcases C16_guard_table r hr with h | h
  · exact ⟨h.1, h.2.1⟩
  · rw [h.2] at hp; cases hp

/-- every view that sends a BGP message is behind `makesure_peer_establish` (and behind `login_required`) -/
theorem C16_gate_table : ∀ r ∈ genRoutes, (View.ofName r.view).isSend = true →
    underPeer r = true ∧ Deco.makesureEstablished ∈ r.decorators.map Deco.ofName := by
  intro r hr hsend
  rcases C16_guard_table r hr with h | h
  · exact h.2.2.2.2 hsend
  · rw [h.1] at hsend; cases hsend

/-- the model knows every view and every decorator of the rules under /v1/peer/ -/
theorem C16_known_table : ∀ r ∈ genRoutes, underPeer r = true →
    View.ofName r.view ≠ .unknown ∧ Deco.unknown ∉ r.decorators.map Deco.ofName := by
  intro r hr hp
  rcases C16_guard_table r hr with h | h
  · exact ⟨h.2.2.1, h.2.2.2.1⟩
  · rw [h.2] at hp; cases hp

/-- the authentication object is an HTTPBasicAuth whose only callback is `verify_password = verify_pw` -/
theorem C16_auth_config :
    Gen.Routes.authCallbacks = [("verify_password", "verify_pw")] ∧
    Gen.Routes.authLive = [("class", "HTTPBasicAuth"), ("scheme", "Basic"), ("get_password", "default_get_password"),
                           ("verify_password", "verify_pw"), ("hash_password", "")] := ⟨rfl, rfl⟩

/-- A rule under /v1/peer/ asked with a method it accepts (other than OPTIONS) and without the configured user and
    password: 401, nothing revealed, nothing changed. -/
theorem C16_auth_401 (rc : RestCfg) (r : Route) (hr : r ∈ genRoutes) (hp : underPeer r = true)
    (req : Request) (s : Sess) (hc : validCreds rc req.auth = false)
    (hm : req.method ∈ r.methods) (ho : req.method ≠ "OPTIONS") :
    handle rc r req s = (⟨401, if req.method = "HEAD" then .empty else .unauthorized⟩, s) := by
  obtain ⟨ds, hds⟩ := List.head?_eq_some_iff.1 (C16_auth_table r hr hp).2
  unfold handle
  simp only [hm, not_true_eq_false, if_false, ho, false_and, hds, chain_login_rejects rc ds _ req s ho hc]
  unfold stripHead
  split <;> rfl

/-- Every rule under /v1/peer/, every method, every request whose Authorization header does not carry the configured
    user and password, every session state: the session state and the outputs are untouched, and the answer is 401 -
    except 405 when the rule does not accept the method and Flask's own empty 200 to OPTIONS. -/
theorem C16_auth (rc : RestCfg) (r : Route) (hr : r ∈ genRoutes) (hp : underPeer r = true)
    (req : Request) (s : Sess) (hc : validCreds rc req.auth = false) :
    (handle rc r req s).2 = s ∧
    (if req.method ∉ r.methods then (handle rc r req s).1.status = 405
     else if req.method = "OPTIONS" then (handle rc r req s).1 = ok .empty
     else (handle rc r req s).1.status = 401) := by
  by_cases hm : req.method ∈ r.methods
  · by_cases ho : req.method = "OPTIONS"
    · simp [handle, ho, ho ▸ hm, (C16_auth_table r hr hp).1]
    · rw [C16_auth_401 rc r hr hp req s hc hm ho]
      simp [hm, ho]
  · simp [handle, hm, stripHead_snd, stripHead_status]

theorem C16_valid_iff (rc : RestCfg) (a : Option (String × String)) :
    validCreds rc a = true ↔ ∃ u p, a = some (u, p) ∧ u ≠ "" ∧ u = rc.user ∧ p = rc.password := by
  cases a with
  | none => simp [validCreds]
  | some up =>
    obtain ⟨u, p⟩ := up
    constructor
    · intro h
      simp only [validCreds, decide_eq_true_eq] at h
      exact ⟨u, p, rfl, h.1, h.2.1, h.2.2⟩
    · rintro ⟨u', p', he, h1, h2, h3⟩
      cases he
      simp only [validCreds, decide_eq_true_eq]
      exact ⟨h1, h2, h3⟩

/-- A send endpoint asked while the session is not Established - whatever the credentials, method and body - does
    nothing (session state and outputs unchanged) and does not report success. -/
theorem C16_gate (rc : RestCfg) (r : Route) (hr : r ∈ genRoutes) (hsend : (View.ofName r.view).isSend = true)
    (req : Request) (s : Sess) (hs : s.st ≠ .established) :
    (handle rc r req s).2 = s ∧ (handle rc r req s).1.success = false := by
  rcases handle_cases rc r req s with h | ⟨_, _, hg⟩
  · exact h
  · exact absurd (hg (C16_gate_table r hr hsend).2) hs

/-- No endpoint under /v1/peer/ puts anything on a transport while the session is not Established (manual stop sends
    its NOTIFICATION only in Established; manual start only opens a connection). -/
theorem C16_no_write_unless_established (rc : RestCfg) (r : Route) (hr : r ∈ genRoutes)
    (req : Request) (s : Sess) (hs : s.st ≠ .established) :
    OutsExt NotWrite s (handle rc r req s).2 := by
  rcases handle_cases rc r req s with ⟨e, _⟩ | ⟨e, _, hg⟩
  · rw [e]; exact OutsExt.refl _ s
  · rw [e, stripHead_snd]
    cases hsend : (View.ofName r.view).isSend
    · rcases runView_state _ req s hsend with e | ⟨_, e⟩ | ⟨_, e⟩ <;> rw [e]
      · exact OutsExt.refl _ s
      · exact (notWrite_tame.manualStart s).2
      · rw [manualStop, if_neg hs]
        exact (notWrite_tame.stopTail s).2
    · exact absurd (hg (C16_gate_table r hr hsend).2) hs

/-- A send endpoint that reports success, on a session whose tracked connection `i` is up: the request carried valid
    credentials, the session is Established, and the whole effect is ONE transport write, on the tracked connection,
    of exactly the requested message - `Update.construct` of the JSON message with LOCAL_PREF 100 appended iff the
    session is iBGP and no attribute 5 was given; the ROUTE-REFRESH for the given family with the type the peer
    advertised; the octets of `binary_data` (zero octets: nothing is written) - plus the message counter. -/
theorem C16_faithful (rc : RestCfg) (r : Route) (hr : r ∈ genRoutes) (hsend : (View.ofName r.view).isSend = true)
    (req : Request) (s : Sess) (i : Nat) (hn : Norm s i)
    (hok : (handle rc r req s).1.success = true) :
    validCreds rc req.auth = true ∧ s.st = .established ∧ s.proto = some i ∧
    ∃ w, Requested s i req (View.ofName r.view) w ∧
      (handle rc r req s).2 = (if w = [] then s else counted (s.emit (.write i w)) i (View.ofName r.view)) ∧
      (handle rc r req s).2.outs = (if w = [] then s.outs else s.outs ++ [.write i w]) := by
  obtain ⟨hpeer, hg⟩ := C16_gate_table r hr hsend
  obtain ⟨hauto, hhead⟩ := C16_auth_table r hr hpeer
  rcases handle_cases rc r req s with h | ⟨e, hl, he⟩
  · rw [h.2] at hok; cases hok
  rw [e] at hok ⊢
  have hst := stripHead_success req _ hok
  rw [hst] at hok ⊢
  refine ⟨hl (List.mem_of_mem_head? hhead) hauto, he hg, hn.proto, ?_⟩
  -- the view did not fail, so it wrote on the tracked connection, which is `i` and is up
  rcases runView_send_cases _ hsend req s with h | ⟨j, w, hp, hreq, hres⟩
  · rw [h.1] at hok; cases hok
  · cases hp.symm.trans hn.proto
    rw [hres, writeOn_norm hn]
    refine ⟨w, hreq, rfl, ?_⟩
    split
    · rfl
    · exact outs_counted _ i _

/-- "only the documented default": the attribute list handed to the encoder is the one given, or - exactly when the
    session is iBGP, attributes were given and none of them is LOCAL_PREF - the one given followed by LOCAL_PREF 100 -/
theorem C16_default_local_pref (cfg : Cfg) (attr : List (Nat × AttrVal)) :
    (withDefaultLocalPref cfg attr = attr ++ [(5, .localPref 100)] ∧
        attr ≠ [] ∧ dictGet attr 5 = none ∧ cfg.remoteAs = cfg.localAs) ∨
    (withDefaultLocalPref cfg attr = attr ∧
        ¬ (attr ≠ [] ∧ dictGet attr 5 = none ∧ cfg.remoteAs = cfg.localAs)) := by
  unfold withDefaultLocalPref
  by_cases h : attr ≠ [] ∧ dictGet attr C.tLocalPref = none ∧ cfg.remoteAs = cfg.localAs
  · left; rw [if_pos h]; exact ⟨rfl, h⟩
  · right; rw [if_neg h]; exact ⟨rfl, h⟩

/-- Together with C06: for a message of the C06 space the octets a successful send/update wrote are a well-formed
    UPDATE that decodes to exactly the prefixes given and exactly the attributes given plus the default above. -/
theorem C16_faithful_decodes (rc : RestCfg) (r : Route) (hr : r ∈ genRoutes)
    (hview : View.ofName r.view = .sendUpdate) (req : Request) (s : Sess) (i : Nat) (hn : Norm s i)
    (hok : (handle rc r req s).1.success = true) (o : JObj) (hb : req.body = .obj o)
    (hvalid : ValidMsg (s.conn i).asn4 false (requestedUpdate s.cfg o)) :
    ∃ body, (handle rc r req s).2.outs = s.outs ++ [.write i (marker ++ be16 (body.length + 19) ++ be8 2 ++ body)] ∧
      parseUpdate (s.conn i).asn4 false body =
        some { withdraw := o.withdraw, nlri := o.nlri, attr := withDefaultLocalPref s.cfg o.attr, subError := none } := by
  have hsend : (View.ofName r.view).isSend = true := by rw [hview]; rfl
  obtain ⟨_, _, _, w, hreq, _, houts⟩ := C16_faithful rc r hr hsend req s i hn hok
  rw [hview] at hreq
  obtain ⟨o', hb', hc⟩ := hreq
  rw [hb] at hb'
  cases hb'
  obtain ⟨body, hw, _, hparse⟩ := C06_roundtrip _ _ _ w hvalid hc
  have hne : w ≠ [] := by rw [hw]; simp [marker]
  refine ⟨body, ?_, ?_⟩
  · rw [houts, if_neg hne, hw]
  · simpa [requestedUpdate] using hparse

/-! ### the tracked connection of an Established session is up (so that C16_faithful applies) -/

inductive C16.Reach (U : Bool → Bytes → UpdClass) (rc : RestCfg) (cfg : Cfg) : World → Prop
  | boot : Reach U rc cfg (bootWorld cfg)
  | ev (w : World) (e : Ev) : Reach U rc cfg w → enabled w.sess e = true → Reach U rc cfg (step U w e)
  | rest (w : World) (r : Route) (req : Request) : Reach U rc cfg w → r ∈ genRoutes →
      Reach U rc cfg (restStep rc r req w).2

theorem C16_reach_inv (U : Bool → Bytes → UpdClass) (rc : RestCfg) (cfg : Cfg) (w : World)
    (h : Reach U rc cfg w) : SessInv w.sess := by
  refine SessInv.of_core ?_
  induction h with
  | boot => exact coreInv_boot cfg
  | ev w e _ hen ih =>
    exact core_step_inv U CoreInv (fun _ => coreInv_frameOutcome) w e hen (fun h => coreInv_stepOutcome h e) ih
  | rest w r req _ _ ih => exact core_restStep_inv CoreInv rc r req w (coreInv_stepOutcome ih) ih

/-- In every reachable state in which the session is Established (or OpenSent / OpenConfirm) the state machine tracks
    a connection that exists, is connected and has not been closed by us. -/
theorem C16_established_tracked (U : Bool → Bytes → UpdClass) (rc : RestCfg) (cfg : Cfg) (w : World)
    (h : Reach U rc cfg w) (hs : w.sess.st = .established) : ∃ i, Norm w.sess i :=
  (C16_reach_inv U rc cfg w h).norm (Or.inr (Or.inr hs))

/-- C16_faithful for every reachable state, without any hypothesis on the connection -/
theorem C16_faithful_reachable (U : Bool → Bytes → UpdClass) (rc : RestCfg) (cfg : Cfg) (w : World)
    (h : Reach U rc cfg w) (r : Route) (hr : r ∈ genRoutes) (hsend : (View.ofName r.view).isSend = true)
    (req : Request) (hok : (restStep rc r req w).1.success = true) :
    ∃ i wire, w.sess.proto = some i ∧ (w.sess.conn i).phase = .connected ∧
      Requested (w.sess.withOuts []) i req (View.ofName r.view) wire ∧
      (restStep rc r req w).2.sess.outs = (if wire = [] then [] else [.write i wire]) := by
  have hest : w.sess.st = .established := by
    by_cases hs : (w.sess.withOuts []).st = .established
    · exact hs
    · exact absurd hok (by rw [show (restStep rc r req w).1 = (handle rc r req (w.sess.withOuts [])).1 from rfl,
        (C16_gate rc r hr hsend req _ hs).2]; simp)
  obtain ⟨i, hn⟩ := C16_established_tracked U rc cfg w h hest
  have hn' : Norm (w.sess.withOuts []) i := hn.withOuts []
  obtain ⟨_, _, hp, wire, hreq, _, houts⟩ := C16_faithful rc r hr hsend req _ i hn' hok
  refine ⟨i, wire, hp, hn.up, hreq, ?_⟩
  show (handle rc r req (w.sess.withOuts [])).2.outs = _
  rw [houts]
  by_cases hw : wire = [] <;> simp [hw, withOuts]

/-! ### non-vacuity -/
namespace C16Ex

/-- an iBGP session brought to Established by the shortest history (boot, connection up, OPEN, KEEPALIVE) -/
def cfg : Cfg :=
  { localAs := 65010, remoteAs := 65010, holdCfg := 180, retryT := 30, idleHoldT := 30, localId := 167772161,
    caps0 := { afiSafi := some [(1, 1)], routeRefresh := true, fourBytesAs := true } }

/-- peer OPEN: version 4, AS 65010, hold 90, id 10.0.0.2, no optional parameters -/
def peerOpen : Bytes := marker ++ [0, 29, 1, 4, 0xfd, 0xf2, 0, 90, 10, 0, 0, 2, 0]
def keepalive : Bytes := marker ++ [0, 19, 4]
def U : Bool → Bytes → UpdClass := fun _ _ => .good
def openConfirm : World := run U (bootWorld cfg) [.boot, .connOk 0, .chunk 0 peerOpen]
def established : World := run U (bootWorld cfg) [.boot, .connOk 0, .chunk 0 peerOpen, .chunk 0 keepalive]

def rc : RestCfg := ⟨"admin", "admin"⟩
def sendRoute : Route :=
  ⟨"/v1/peer/<peer_ip>/send/update", ["OPTIONS", "POST"], true,
    ["login_required", "log_request", "makesure_peer_establish"], "send_update_message"⟩
def body : JObj :=
  { attr := [(1, .origin 0), (2, .asPath [(2, [65010])]), (3, .nextHop 167772161)],
    nlri := [{ addr := 167837696, len := 16 }] }
def req (auth : Option (String × String)) : Request := { method := "POST", auth := auth, body := .obj body }

/-- `sendRoute` is the seventh rule of the table; that it lies under /v1/peer/ is what `C16_gate_table` says of a
    rule whose view sends -/
theorem sendRoute_mem :
    sendRoute ∈ genRoutes ∧ underPeer sendRoute = true ∧ (View.ofName sendRoute.view).isSend = true :=
  have hm : sendRoute ∈ genRoutes := List.getElem_mem (by decide : 6 < genRoutes.length)
  have hs : (View.ofName sendRoute.view).isSend = true := by decide
  ⟨hm, (C16_gate_table _ hm hs).1, hs⟩

example : sendRoute ∈ genRoutes ∧ underPeer sendRoute = true ∧ (View.ofName sendRoute.view).isSend = true :=
  sendRoute_mem

example : established.sess.st = .established ∧ established.sess.proto = some 0 ∧
    (established.sess.conn 0).phase = .connected ∧ (established.sess.conn 0).disconnected = false ∧
    0 < established.sess.conns.length := by decide

/-- the hypotheses of C16_faithful are met: right credentials in Established give success -/
example : (handle rc sendRoute (req (some ("admin", "admin"))) (established.sess.withOuts [])).1.success = true := by
  decide

/-- … and what went out is one UPDATE on connection 0 with LOCAL_PREF 100 appended (iBGP, attribute 5 not given) -/
example : (handle rc sendRoute (req (some ("admin", "admin"))) (established.sess.withOuts [])).2.outs =
      [.write 0 (marker ++ be16 51 ++ [2] ++ [0, 0] ++ be16 25 ++
        [0x40, 1, 1, 0] ++ [0x40, 2, 4, 2, 1, 0xfd, 0xf2] ++ [0x40, 3, 4, 10, 0, 0, 1] ++ [0x40, 5, 4, 0, 0, 0, 100] ++
        [16, 10, 1])] := by decide

/-- the hypothesis of C16_auth is met: a wrong password is not valid; the answer is 401 and nothing else -/
example : handle rc sendRoute (req (some ("admin", "nimda"))) established.sess = (⟨401, .unauthorized⟩, established.sess) :=
  C16_auth_401 rc sendRoute sendRoute_mem.1 sendRoute_mem.2.1 _ _ (by decide) (by decide) (by decide)

/-- the hypothesis of C16_gate is met: right credentials, but the session is only OpenConfirm -/
example : openConfirm.sess.st = .openConfirm := by decide
example : (handle rc sendRoute (req (some ("admin", "admin"))) openConfirm.sess).1 = refused .peerState := by decide

/-- `established` is a reachable state in the sense of `Reach` -/
example : Reach U rc cfg established := by
  have h0 : Reach U rc cfg (bootWorld cfg) := Reach.boot
  have h1 := Reach.ev _ Ev.boot h0 (by decide)
  have h2 := Reach.ev _ (Ev.connOk 0) h1 (by decide)
  have h3 := Reach.ev _ (Ev.chunk 0 peerOpen) h2 (by decide)
  exact Reach.ev _ (Ev.chunk 0 keepalive) h3 (by decide)

end C16Ex

end Yabgp

#print axioms Yabgp.C16_routes_agree
#print axioms Yabgp.C16_chain_as_installed
#print axioms Yabgp.C16_auth_table
#print axioms Yabgp.C16_gate_table
#print axioms Yabgp.C16_known_table
#print axioms Yabgp.C16_auth_config
#print axioms Yabgp.C16_auth
#print axioms Yabgp.C16_auth_401
#print axioms Yabgp.C16_valid_iff
#print axioms Yabgp.C16_gate
#print axioms Yabgp.C16_no_write_unless_established
#print axioms Yabgp.C16_faithful
#print axioms Yabgp.C16_default_local_pref
#print axioms Yabgp.C16_faithful_decodes
#print axioms Yabgp.C16_reach_inv
#print axioms Yabgp.C16_established_tracked
#print axioms Yabgp.C16_faithful_reachable
