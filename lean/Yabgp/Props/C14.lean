/-
  C14 — OPEN, NOTIFICATION, KEEPALIVE and ROUTE-REFRESH encode and decode faithfully.
-/
import Yabgp.Lemmas.OpenRt

namespace Yabgp
open Spec

/-- inputs of the reference encoder the theorem quantifies over: any true AS 1..2^32-1, any hold time,
    any identifier, any list of optional parameters each holding any list of well-formed capabilities
    (any subset, order and packaging) that fits the one-octet length fields -/
structure RefOk (asn hold bgpId : Nat) (params : List (List Cap)) : Prop where
  asn_pos : 1 ≤ asn
  asn_lt : asn < 4294967296
  hold_lt : hold < 65536
  id_lt : bgpId < 4294967296
  params_ok : ∀ p ∈ params, (∀ c ∈ p, CapOk c) ∧ (p.flatMap encCap).length < 256
  total : (params.flatMap encParam).length < 256

/-- decoding agrees with the independent RFC encoder for every capability combination -/
theorem C14_open_decodes_reference (asn hold bgpId : Nat) (params : List (List Cap))
    (h : RefOk asn hold bgpId params) :
    parseOpen (refOpenBody asn hold bgpId params) = .ok (expectOpen asn hold bgpId params) := by
  obtain ⟨h1, h2, h3, h4, h5, h6⟩ := h
  rw [refOpenBody, parseOpen_enc (by split <;> omega) (by split <;> omega) h3 h4 h6, optParasLoop_enc params _ h5]
  rfl

theorem C14_notification_roundtrip (err sub : Nat) (data wire : Bytes)
    (hc : constructNotification err sub data = some wire) :
    ∃ body, wire = marker ++ be16 (body.length + 19) ++ be8 3 ++ body ∧
      parseNotification body = some (err, sub, data) := by
  simp only [constructNotification, constructHeader, C.msgNotification, Option.ite_none_right_eq_some,
    Option.some.injEq] at hc
  obtain ⟨h, -, rfl⟩ := hc
  exact ⟨_, rfl, by simp [parseNotification, be8, u8_toNat h.1, u8_toNat h.2]⟩

theorem C14_keepalive : constructKeepalive = marker ++ be16 19 ++ be8 4 ∧ parseKeepalive [] = .ok () := by
  constructor <;> rfl

theorem C14_keepalive_rejects_body (b : Bytes) (h : b ≠ []) : parseKeepalive b = .error (.hdr 2) := by
  simp [parseKeepalive, h, C.hdrBadLen]

theorem C14_routerefresh_roundtrip (ty afi res safi : Nat) (wire : Bytes)
    (hc : constructRouteRefresh ty afi res safi = some wire) :
    ∃ body, wire = marker ++ be16 (body.length + 19) ++ be8 ty ++ body ∧
      parseRouteRefresh body = some (afi, res, safi) := by
  simp only [constructRouteRefresh, constructHeader, Option.ite_none_right_eq_some, Option.some.injEq] at hc
  obtain ⟨h, -, rfl⟩ := hc
  exact ⟨_, rfl, by simp [parseRouteRefresh, be8, be16, be16_val h.1, u8_toNat h.2.1, u8_toNat h.2.2.1]⟩

/-- non-vacuity: a packaging with several capabilities per parameter, an unknown code, add-path for two
    families and a 4-octet AS meets the hypotheses -/
example : RefOk 4200000000 180 16909060
    [[.mp 1 1, .routeRefresh, .as4 4200000000], [.addPath [(1, 1, 3), (2, 1, 1)]], [.unknown 99 [1, 2]],
     [.llgr [(1, 1, 0, 3600)], .extNextHop [(1, 1, 2)], .gracefulRestart [0, 120]]] := by
  constructor <;> try decide
  intro p hp
  simp at hp
  rcases hp with rfl | rfl | rfl | rfl <;> (constructor <;> (try decide)) <;>
    (intro c hc; simp at hc; rcases hc with rfl | rfl | rfl <;> simp [CapOk])

end Yabgp

#print axioms Yabgp.C14_open_decodes_reference
#print axioms Yabgp.C14_notification_roundtrip
#print axioms Yabgp.C14_keepalive
#print axioms Yabgp.C14_keepalive_rejects_body
#print axioms Yabgp.C14_routerefresh_roundtrip

namespace Yabgp
open Spec

/-- the capabilities Open.construct emits for a local capability dictionary, one per optional parameter -/
def capsOfLocal (asn : Nat) (c : LocalCaps) : List (List Cap) :=
  (match c.afiSafi with | some l => l.map (fun p => [Cap.mp p.1 p.2]) | none => []) ++
  (if c.ciscoRouteRefresh then [[Cap.ciscoRouteRefresh]] else []) ++
  (if c.routeRefresh then [[Cap.routeRefresh]] else []) ++
  (if asn > 65535 ∨ c.fourBytesAs then [[Cap.as4 asn]] else []) ++
  (match c.extNexthop with | some l => [[Cap.extNextHop l]] | none => []) ++
  (match c.addPath with | some v => [[Cap.addPath [(1, 1, v)]]] | none => []) ++
  (if c.enhancedRouteRefresh then [[Cap.enhancedRouteRefresh]] else [])

/-- `b` is the reference encoding of the parameters `ps`, and `ps` is a group the reference theorem accepts: every
    capability well-formed and every parameter short enough -/
def Encodes (b : Bytes) (ps : List (List Cap)) : Prop :=
  b = ps.flatMap encParam ∧ ∀ p ∈ ps, (∀ x ∈ p, CapOk x) ∧ (p.flatMap encCap).length < 256

theorem Encodes.nil : Encodes [] [] := ⟨rfl, fun _ hp => nomatch hp⟩

theorem Encodes.append {a b : Bytes} {p q : List (List Cap)} (ha : Encodes a p) (hb : Encodes b q) :
    Encodes (a ++ b) (p ++ q) :=
  ⟨by rw [ha.1, hb.1, List.flatMap_append], fun x hx => (List.mem_append.mp hx).elim (ha.2 x) (hb.2 x)⟩

theorem Encodes.single (cap : Cap) (hok : CapOk cap) (hl : cap.value.length < 254) :
    Encodes (encParam [cap]) [[cap]] := by
  refine ⟨by rw [List.flatMap_singleton], fun p hp => ?_⟩
  cases List.mem_singleton.mp hp
  refine ⟨fun x hx => by cases List.mem_singleton.mp hx; exact hok, ?_⟩
  simp only [List.flatMap_singleton, encCap, List.length_append, be8_length]
  omega

theorem Encodes.flag (f : Bool) {b : Bytes} {cap : Cap} (h : Encodes b [[cap]]) :
    Encodes (if f then b else []) (if f then [[cap]] else []) := by
  cases f
  · exact .nil
  · exact h

theorem encMp_encodes (l : List (Nat × Nat)) (h : mpOk l = true) :
    Encodes (encMp l) (l.map fun p => [Cap.mp p.1 p.2]) := by
  induction l with
  | nil => exact .nil
  | cons p r ih =>
    rw [mpOk, List.all_cons, Bool.and_eq_true, decide_eq_true_eq] at h
    exact (Encodes.single (.mp p.1 p.2) h.1 (by decide : 4 < 254)).append (ih h.2)

theorem capMp_encodes (c : LocalCaps) (b : Bytes) (h : capMp c = some b) :
    Encodes b (match c.afiSafi with | some l => l.map (fun p => [Cap.mp p.1 p.2]) | none => []) := by
  unfold capMp at h
  generalize c.afiSafi = o at h ⊢
  cases o with
  | none => cases h; exact .nil
  | some l =>
    simp only [Option.ite_none_right_eq_some, Option.some.injEq] at h
    obtain ⟨hok, rfl⟩ := h
    exact encMp_encodes l hok

theorem capAs4_encodes (asn : Nat) (c : LocalCaps) (b : Bytes) (h : capAs4 asn c = some b) :
    Encodes b (if asn > 65535 ∨ c.fourBytesAs then [[Cap.as4 asn]] else []) := by
  unfold capAs4 at h
  split
  · rw [if_pos ‹_›] at h
    split at h
    · cases h; exact .single (.as4 asn) ‹_› (by decide : 4 < 254)
    · cases h
  · rw [if_neg ‹_›] at h; cases h; exact .nil

theorem capEnh_encodes (c : LocalCaps) (b : Bytes) (h : capEnh c = some b) :
    Encodes b (match c.extNexthop with | some l => [[Cap.extNextHop l]] | none => []) := by
  unfold capEnh at h
  generalize c.extNexthop = o at h ⊢
  cases o with
  | none => cases h; exact .nil
  | some l =>
    simp only [Option.ite_none_right_eq_some, Option.some.injEq] at h
    obtain ⟨hok, rfl⟩ := h
    have hlen : (encExtNh l).length = 6 * l.length := length_flatMap_const 6 (fun _ => rfl) l
    have hb : [2] ++ be8 ((encExtNh l).length + 2) ++ [5] ++ be8 (encExtNh l).length ++ encExtNh l =
        encParam [Cap.extNextHop l] := by
      show _ = [2] ++ be8 (be8 5 ++ be8 (encExtNh l).length ++ encExtNh l ++ []).length ++
        (be8 5 ++ be8 (encExtNh l).length ++ encExtNh l ++ [])
      simp only [List.append_nil, List.length_append, be8_length, List.append_assoc]
      rw [← Nat.add_assoc, Nat.add_comm]
      rfl
    exact hb ▸ .single (.extNextHop l) ⟨fun t ht => of_decide_eq_true (List.all_eq_true.mp hok.1 t ht), by omega⟩
      (by show (encExtNh l).length < 254; omega)

theorem capAp_encodes (c : LocalCaps) (b : Bytes) (h : capAp c = some b) :
    Encodes b (match c.addPath with | some v => [[Cap.addPath [(1, 1, v)]]] | none => []) := by
  unfold capAp at h
  generalize c.addPath = o at h ⊢
  cases o with
  | none => cases h; exact .nil
  | some v =>
    simp only [Option.ite_none_right_eq_some, Option.some.injEq] at h
    obtain ⟨hok, rfl⟩ := h
    have hb : [2, 6, 69, 4, 0, 1, 1] ++ be8 v = encParam [Cap.addPath [(1, 1, v)]] := by
      simp [encParam, encCap, Cap.code, Cap.value, be8, be16, u8]
    refine hb ▸ .single (.addPath [(1, 1, v)]) ⟨fun t ht => ?_, (by decide : 1 < 64)⟩ (by decide : 4 < 254)
    cases List.mem_singleton.mp ht
    exact ⟨by show 1 < 65536; decide, by show 1 < 256; decide, by show v < 256; omega⟩

/-- block by block, Open.construct's capability string is the reference encoding of `capsOfLocal` -/
theorem constructCaps_eq_ref (asn : Nat) (c : LocalCaps) (b : Bytes)
    (hc : constructCaps asn c = some b) : Encodes b (capsOfLocal asn c) := by
  unfold constructCaps at hc
  split at hc
  · rename_i mp as4 enh ap h1 h2 h3 h4
    cases hc
    exact ((((((capMp_encodes c mp h1).append (.flag _ (.single .ciscoRouteRefresh trivial (by decide)))).append
      (.flag _ (.single .routeRefresh trivial (by decide)))).append (capAs4_encodes asn c as4 h2)).append
      (capEnh_encodes c enh h3)).append (capAp_encodes c ap h4)).append
      (.flag _ (.single .enhancedRouteRefresh trivial (by decide)))
  · cases hc
/-- Open.construct then Open.parse: version 4, the true AS (AS_TRANS rule included), hold time,
    identifier and exactly the capability set that was encoded, with or without optional parameters -/
theorem C14_open_roundtrip (asn hold bgpId : Nat) (c : LocalCaps) (wire : Bytes) (h1 : 1 ≤ asn)
    (hc : constructOpen 4 asn hold bgpId c = some wire) :
    ∃ body, wire = marker ++ be16 (body.length + 19) ++ be8 1 ++ body ∧
      parseOpen body = .ok (expectOpen asn hold bgpId (capsOfLocal asn c)) := by
  simp only [constructOpen, Option.bind_eq_bind, Option.bind_eq_some_iff, C.asTrans, C.msgOpen,
    Option.ite_none_right_eq_some] at hc
  obtain ⟨capas, hcaps, ⟨-, hh, hid, hlen⟩, hc⟩ := hc
  simp only [constructHeader, Option.ite_none_right_eq_some, Option.some.injEq] at hc
  obtain ⟨-, rfl⟩ := hc
  refine ⟨_, rfl, ?_⟩
  obtain ⟨heq, hok⟩ := constructCaps_eq_ref asn c capas hcaps
  have hasn : asn < 4294967296 := Nat.lt_of_not_le fun hge => by
    simp [constructCaps, capAs4, show asn > 65535 by omega, Nat.not_lt.mpr hge] at hcaps
  rw [← C14_open_decodes_reference asn hold bgpId (capsOfLocal asn c)
    ⟨h1, hasn, hh, hid, hok, by rw [← heq]; exact hlen⟩]
  simp only [refOpenBody, ← heq]

def isAs4 : Cap → Bool
  | .as4 _ => true
  | _ => false

theorem foldl_applyRef_fst (caps : List Cap) (st : Nat × CapaDict) (h : caps.all (fun c => !isAs4 c) = true) :
    (caps.foldl applyRef st).1 = st.1 := by
  induction caps generalizing st with
  | nil => rfl
  | cons c r ih =>
    rw [List.all_cons, Bool.and_eq_true] at h
    rw [List.foldl_cons, ih _ h.2]
    cases c with
    | as4 x => cases h.1
    | _ => rfl

/-- the AS a constructed OPEN decodes to is the configured one, for every AS 1 .. 2^32-1 -/
theorem C14_open_true_as (asn hold bgpId : Nat) (c : LocalCaps) :
    (expectOpen asn hold bgpId (capsOfLocal asn c)).asn = asn ∧
    (expectOpen asn hold bgpId (capsOfLocal asn c)).holdTime = hold ∧
    (expectOpen asn hold bgpId (capsOfLocal asn c)).bgpId = bgpId := by
  refine ⟨?_, rfl, rfl⟩
  simp only [expectOpen, capsOfLocal, List.flatten_append, List.foldl_append]
  -- the three blocks after the AS4 block hold no AS4 capability (side goals at the end)
  rw [foldl_applyRef_fst, foldl_applyRef_fst, foldl_applyRef_fst]
  · by_cases hcond : asn > 65535 ∨ c.fourBytesAs = true
    · rw [if_pos hcond]; rfl
    · -- no AS4 capability at all: the AS is the 2-octet field, which then holds the true AS
      rw [if_neg hcond, List.flatten_nil, List.foldl_nil, foldl_applyRef_fst, foldl_applyRef_fst,
        foldl_applyRef_fst, if_neg fun h => hcond (.inl h)]
      · cases c.afiSafi <;> simp [isAs4]
      · cases c.ciscoRouteRefresh <;> rfl
      · cases c.routeRefresh <;> rfl
  · cases c.extNexthop <;> rfl
  · cases c.addPath <;> rfl
  · cases c.enhancedRouteRefresh <;> rfl

end Yabgp

#print axioms Yabgp.C14_open_roundtrip
#print axioms Yabgp.C14_open_true_as
