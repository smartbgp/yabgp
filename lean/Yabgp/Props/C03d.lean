/-
  C03, the wait for the peer's OPEN: "while waiting for the peer's OPEN the limit is the fixed 4-minute large hold time".
  In the model that wait is the state OpenSent (ticks of 1/3 s, so 240 s = 3 * C.largeHoldTime = 720 ticks).
    * OpenSent is entered only by a TCP connection coming up, and at that moment the hold deadline is set exactly
      4 minutes ahead (`C03_opensent_entry`);
    * while the state stays OpenSent no event moves that deadline (`C03_opensent_deadline_fixed`);
    * in every reachable OpenSent state the hold timer is the only timer running (`C03_opensent_timers`), hence the only
      timer expiry that can be delivered there is the hold timer's (`C03_opensent_only_hold_ends_the_wait`).
  The relation `Stay` says it: if the state is OpenSent after an event it was OpenSent before, the hold and the
  ConnectRetry deadlines are the old ones and the idle-hold timer was at most stopped.  Every event except `connOk`
  satisfies it, because a `Move` (Lemmas/TimerMoves.lean) either fixes all of that or ends outside OpenSent.
-/
import Yabgp.Props.C01c
import Yabgp.Props.C03

namespace Yabgp
open Sess

variable (U : Bool → Bytes → UpdClass)

def Stay (s s' : Sess) : Prop :=
  s'.st = .openSent → s.st = .openSent ∧ s'.tm.hold = s.tm.hold ∧ s'.tm.retry = s.tm.retry ∧
    (s.tm.idleHold = none → s'.tm.idleHold = none)

theorem Stay.of_ne {s s' : Sess} (h : s'.st ≠ .openSent) : Stay s s' := fun hs => absurd hs h

theorem Stay.of_idle {s s' : Sess} (h : s'.st = .idle) : Stay s s' := Stay.of_ne (by rw [h]; simp)

theorem Stay.same {s s' : Sess} (h1 : s'.st = s.st) (h2 : s'.tm = s.tm) : Stay s s' :=
  fun hs => ⟨by rw [← h1]; exact hs, by rw [h2], by rw [h2], fun h => by rw [h2]; exact h⟩

theorem Stay.refl (s : Sess) : Stay s s := Stay.same rfl rfl

theorem Stay.of_tms {s s' : Sess} (h : Tms s s') : Stay s s' := Stay.same h.1 h.2

theorem Stay.trans {a b c : Sess} (h1 : Stay a b) (h2 : Stay b c) : Stay a c := by
  intro hs
  obtain ⟨hb, e1, e2, e3⟩ := h2 hs
  obtain ⟨ha, f1, f2, f3⟩ := h1 hb
  exact ⟨ha, e1.trans f1, e2.trans f2, fun h => e3 (f3 h)⟩

theorem Stay.ne {s s' : Sess} (h : Stay s s') (hs : s.st ≠ .openSent) : s'.st ≠ .openSent :=
  fun h' => hs (h h').1

/-- one frame: OPEN leaves OpenSent (OpenConfirm or Idle), KEEPALIVE / UPDATE / NOTIFICATION end in Idle there, a
    ROUTE-REFRESH and the frames that are skipped touch neither the state nor a timer -/
theorem Stay.of_frame {s s' : Sess} (f : Frame s s') : Stay s s' := by
  cases f with
  | skip a b => exact .same a b
  | ended e => exact .of_ne e.st.ne.1
  | opened _ a => exact .of_ne (by simp [a])
  | restarted _ a => exact .of_ne (by simp [a])

/-- the keepalive-timer expiry in OpenSent (excluded in reachable states by `C01_no_stale_timers`) only clears itself -/
theorem stay_fireKeepalive (s : Sess) : Stay s s.fireKeepalive := by
  rcases fireKeepalive_cases s with e | ⟨h1, _, _, h4, h5, h6, _⟩
  · exact .of_ne e.st.ne.1
  · exact fun hs => ⟨h1 ▸ hs, h4, h5, fun h => h6.trans h⟩

theorem stay_step (w : World) (e : Ev) (h : ∀ c, e ≠ .connOk c) : Stay (w.sess.withOuts []) (step U w e).sess := by
  by_cases h1 : e = .fire .keepalive
  · subst h1; exact stay_fireKeepalive _
  by_cases h2 : ∃ c d, e = .chunk c d
  · obtain ⟨c, d, rfl⟩ := h2
    exact drain_rel U c Stay.refl Stay.trans (fun s buf => .of_frame (frame_parseBuffer U s c buf)) _ _ _
  by_cases h3 : ∃ dt, e = .advance dt
  · obtain ⟨dt, rfl⟩ := h3; exact .same rfl rfl
  rcases weak_step U w e h h1 (fun c d h => h2 ⟨c, d, h⟩) (fun dt h => h3 ⟨dt, h⟩) with f | r
  · exact fun hs => ⟨f.st ▸ hs, f.hold, f.retry, f.idle⟩
  · exact .of_ne r.ne.1

theorem connOk_openSent (s : Sess) (c : Nat) (h : (s.connOk c).st = .openSent) :
    (s.connOk c).tm.hold = some (s.now + 3 * C.largeHoldTime) ∧ (s.connOk c).tm.retry = none ∧
      (s.connOk c).tm.idleHold = none := by
  obtain ⟨_, _, _, h1, h2, h3 | h3⟩ := connOk_cases s c
  · exact ⟨h3.2, h1, h2⟩
  · rw [h3.1] at h; cases h

/-- **OpenSent is entered only by a TCP connection coming up, and at that moment the hold deadline is set exactly
    4 minutes (3 * 240 ticks) ahead.**  No hypothesis on the state. -/
theorem C03_opensent_entry (w : World) (e : Ev) :
    w.sess.st ≠ .openSent → (step U w e).sess.st = .openSent →
      (∃ c, e = .connOk c) ∧ (step U w e).sess.tm.hold = some (w.sess.now + 3 * C.largeHoldTime) := by
  intro hne hos
  by_cases hc : ∃ c, e = .connOk c
  · refine ⟨hc, ?_⟩
    obtain ⟨c, rfl⟩ := hc
    exact (connOk_openSent (w.sess.withOuts []) c hos).1
  · exact absurd ((stay_step U w e (fun c h => hc ⟨c, h⟩)) hos).1 hne

/-- **While the agent waits for the peer's OPEN nothing moves the 4-minute deadline.**  `Heal` / `One` (reachable-state
    invariants of C02 / C12) with `enabled` exclude the one event for which the model would set a new deadline: a second
    connection attempt succeeding while a tracked connection is up. -/
theorem C03_opensent_deadline_fixed (w : World) (e : Ev) (hen : enabled w.sess e = true)
    (hh : Core.Heal (core w.sess)) (ho : Core.One (core w.sess)) :
    w.sess.st = .openSent → (step U w e).sess.st = .openSent → (step U w e).sess.tm.hold = w.sess.tm.hold := by
  intro hs hos
  by_cases hc : ∃ c, e = .connOk c
  · obtain ⟨c, rfl⟩ := hc
    simp only [enabled, decide_eq_true_eq] at hen
    exact absurd hs (quiet_of_connecting hh ho (c := c) hen.1 hen.2).ne.1
  · exact ((stay_step U w e (fun c h => hc ⟨c, h⟩)) hos).2.1

theorem C03_opensent_deadline_fixed' (w : World) (e : Ev) (hc : ∀ c, e ≠ .connOk c) :
    (step U w e).sess.st = .openSent →
      w.sess.st = .openSent ∧ (step U w e).sess.tm.hold = w.sess.tm.hold ∧ (step U w e).sess.tm.retry = w.sess.tm.retry := by
  intro hos
  have h := (stay_step U w e hc) hos
  exact ⟨h.1, h.2.1, h.2.2.1⟩

def OsInv (s : Sess) : Prop :=
  s.st = .openSent → s.tm.retry = none ∧ s.tm.idleHold = none ∧ s.tm.hold ≠ none

theorem osInv_step (w : World) (e : Ev) (h : OsInv w.sess) : OsInv (step U w e).sess := by
  intro hos
  by_cases hc : ∃ c, e = .connOk c
  · obtain ⟨c, rfl⟩ := hc
    obtain ⟨h1, h2, h3⟩ := connOk_openSent (w.sess.withOuts []) c hos
    refine ⟨h2, h3, ?_⟩
    show ((w.sess.withOuts []).connOk c).tm.hold ≠ none
    rw [h1]; simp
  · obtain ⟨hs, e1, e2, e3⟩ := (stay_step U w e (fun c h => hc ⟨c, h⟩)) hos
    obtain ⟨g1, g2, g3⟩ := h hs
    exact ⟨e2.trans g1, e3 g2, by rw [e1]; exact g3⟩

theorem osInv_run (evs : List Ev) : ∀ (w : World), OsInv w.sess → OsInv (run U w evs).sess := by
  induction evs with
  | nil => intro w h; exact h
  | cons e r ih => intro w h; exact ih _ (osInv_step U w e h)

theorem osInv_reachable (cfg : Cfg) (evs : List Ev) : OsInv (run U (bootWorld cfg) evs).sess :=
  osInv_run U evs _ (fun h => by simp [bootWorld, boot] at h)

/-- **In every reachable OpenSent state the hold timer is the only timer running**: ConnectRetry, keepalive and idle-hold
    timers do not exist, the hold timer does.  (`EnabledRun` is needed for the keepalive timer only -
    `C01_no_stale_timers`; the other three conjuncts hold after any event list.) -/
theorem C03_opensent_timers (cfg : Cfg) (e0 : Ev) (he0 : e0 = .boot ∨ e0 = .manualStart) (evs : List Ev)
    (hen : EnabledRun U (step U (bootWorld cfg) e0) evs) :
    let s := (run U (bootWorld cfg) (e0 :: evs)).sess
    s.st = .openSent → s.tm.retry = none ∧ s.tm.keepalive = none ∧ s.tm.idleHold = none ∧ s.tm.hold ≠ none := by
  intro s hs
  have hk := (C01_no_stale_timers U cfg e0 he0 evs hen).2 hs
  obtain ⟨h1, h2, h3⟩ := osInv_reachable U cfg (e0 :: evs) hs
  exact ⟨h1, hk, h2, h3⟩

/-- stated on the events: **the only timer expiry that can end the wait for the peer's OPEN is the hold timer's** -/
theorem C03_opensent_only_hold_ends_the_wait (cfg : Cfg) (e0 : Ev) (he0 : e0 = .boot ∨ e0 = .manualStart) (evs : List Ev)
    (hen : EnabledRun U (step U (bootWorld cfg) e0) evs) :
    let s := (run U (bootWorld cfg) (e0 :: evs)).sess
    s.st = .openSent → ∀ t, enabled s (.fire t) = true → t = .hold := by
  intro s hs t ht
  have h : s.tm.retry = none ∧ s.tm.keepalive = none ∧ s.tm.idleHold = none ∧ _ := C03_opensent_timers U cfg e0 he0 evs hen hs
  cases t with
  | hold => rfl
  | retry => simp [enabled, timerOf, h.1] at ht
  | keepalive => simp [enabled, timerOf, h.2.1] at ht
  | idleHold => simp [enabled, timerOf, h.2.2.1] at ht

/-! ### non-vacuity (example session of Props/C01.lean: connection 0 up at tick 0, OPEN sent) -/

/-- a ROUTE-REFRESH message (IPv4 unicast): counted, not handed to the FSM -/
def exRouteRefresh : Bytes := marker ++ [0, 23, 5, 0, 1, 0, 1]

/-- OpenSent is reached by `connOk` from a state that is not OpenSent; the hold deadline is 720 ticks = 240 s ahead of
    tick 0 and no other timer runs -/
example :
    (step exU (bootWorld exCfg) .boot).sess.st ≠ .openSent ∧ (step exU (bootWorld exCfg) .boot).sess.now = 0 ∧
    exOpenSent.sess.st = .openSent ∧ exOpenSent.sess.tm.hold = some 720 ∧ 3 * C.largeHoldTime = 720 ∧
    exOpenSent.sess.tm.retry = none ∧ exOpenSent.sess.tm.keepalive = none ∧ exOpenSent.sess.tm.idleHold = none := by
  refine ⟨by decide, by decide, by decide, by decide, by decide, by decide, by decide, by decide⟩

/-- events that are enabled in OpenSent and keep the state and the deadline: a KEEPALIVE cut short followed by nothing
    (an incomplete frame), a ROUTE-REFRESH followed by the beginning of a KEEPALIVE, a clock advance, an operator start -/
example :
    enabled exOpenSent.sess (.chunk 0 (exKeepalive.take 18)) = true ∧
    (step exU exOpenSent (.chunk 0 (exKeepalive.take 18))).sess.st = .openSent ∧
    (step exU exOpenSent (.chunk 0 (exKeepalive.take 18))).sess.tm.hold = some 720 ∧
    enabled exOpenSent.sess (.chunk 0 (exRouteRefresh ++ exKeepalive.take 5)) = true ∧
    (step exU exOpenSent (.chunk 0 (exRouteRefresh ++ exKeepalive.take 5))).sess.st = .openSent ∧
    (step exU exOpenSent (.chunk 0 (exRouteRefresh ++ exKeepalive.take 5))).sess.tm.hold = some 720 ∧
    (step exU exOpenSent (.chunk 0 (exRouteRefresh ++ exKeepalive.take 5))).sess.outs = [.hRouteRefresh 0 1 0 1 5] ∧
    enabled exOpenSent.sess (.advance 10) = true ∧
    (step exU exOpenSent (.advance 10)).sess.st = .openSent ∧
    (step exU exOpenSent (.advance 10)).sess.tm.hold = some 720 ∧
    (step exU exOpenSent .manualStart).sess.st = .openSent ∧
    (step exU exOpenSent .manualStart).sess.tm.hold = some 720 := by
  refine ⟨by decide, by decide, by decide, by decide, by decide, by decide, by decide, by decide, by decide, by decide,
    by decide, by decide⟩

/-- a complete KEEPALIVE (with or without garbage after it) is an FSM error in OpenSent: the wait ends in Idle and the
    hold timer is stopped - the deadline is not moved, it is gone with the state -/
example :
    (step exU exOpenSent (.chunk 0 (exKeepalive ++ [1, 2, 3]))).sess.st = .idle ∧
    (step exU exOpenSent (.chunk 0 (exKeepalive ++ [1, 2, 3]))).sess.tm.hold = none := by
  refine ⟨by decide, by decide⟩

/-- the clock can be advanced up to the deadline and no further; then the hold timer fires and the wait ends -/
example :
    enabled exOpenSent.sess (.advance 720) = true ∧ enabled exOpenSent.sess (.advance 721) = false ∧
    enabled (step exU exOpenSent (.advance 720)).sess (.fire .hold) = true ∧
    (step exU (step exU exOpenSent (.advance 720)) (.fire .hold)).sess.st = .idle := by
  refine ⟨by decide, by decide, by decide, by decide⟩

/-- the hypotheses of `C03_opensent_timers` are met by the example run -/
example : EnabledRun exU (step exU (bootWorld exCfg) .boot) [.connOk 0] := ⟨by decide, trivial⟩

end Yabgp

#print axioms Yabgp.C03_opensent_entry
#print axioms Yabgp.C03_opensent_deadline_fixed
#print axioms Yabgp.C03_opensent_deadline_fixed'
#print axioms Yabgp.osInv_step
#print axioms Yabgp.C03_opensent_timers
#print axioms Yabgp.C03_opensent_only_hold_ends_the_wait
