/-
  C11 (part b) — the TLV decoders terminate on every input within a bounded amount of work.

  Scope: the container loops of BGP-LS NLRI (nlri/linkstate.py), the BGP-LS attribute (linkstate/**) and BGP
  Prefix-SID (sr/**), see Model/Tlv.lean.  Termination itself is Lean's acceptance of `tlvRun` / `deepSteps`
  (well-founded recursion on the octets left, no fuel); the theorems below bound the work and tie the list of
  loops the model covers to the inventory regenerated from the source (Gen/Loops.lean).
  Helper lemmas about single passes through the loop in Lemmas/TlvLemmas.lean.
-/
import Yabgp.Lemmas.TlvLemmas
import Yabgp.Gen.Loops

namespace Yabgp
open Yabgp.Tlv

/-- every loop (while / for / comprehension) of nlri/linkstate.py, linkstate/** and sr/** is in the model's
    coverage list with the same normalised source hash, and the list names nothing that is not in the source:
    a new, changed or vanished loop breaks this obligation.
    Both tables are evaluated and compared by `rfl`: the kernel compares two string literals as literals, where
    `decide` would run `String.decEq` through some 2000 characters of file paths. -/
theorem gen_loops_covered :
    Gen.Loops.tlvLoops = coveredLoops.map (fun c => (c.id, c.hash)) := by rfl

/-- the constant part of every loop's advance, read from its AST, is what the coverage list records -/
theorem gen_loops_advance :
    Gen.Loops.tlvAdvance = coveredLoops.map (fun c => (c.id, c.adv)) := by rfl

/-- ... and for the loops modelled by `tlvRun` it is the header size of the instance that covers them -/
def coverOk (c : Covered) : Bool :=
  match c.cover with
  | .tlv n => hdrOfInstance n == some c.adv
  | .finite _ => true

theorem covered_instances_exist : coveredLoops.all coverOk = true := by decide

/-- the registry of BGP-LS attribute TLV classes, the protocol-dependent list and the call conventions -/
theorem gen_ls_registry : Gen.Loops.lsRegistry.map (·.1) = lsRegistered := by decide
theorem gen_ls_special : Gen.Loops.lsSpecial = lsSpecial := by decide
theorem gen_ls_two_arg :
    (Gen.Loops.lsRegistry.filter (fun e => e.2.2 == 2)).map (·.1) = lsTwoArg := by decide
theorem gen_ls_no_unpack :
    (Gen.Loops.lsRegistry.filter (fun e => e.2.2 == 0)).map (·.1) = lsNoUnpack := by decide
theorem gen_psid_registries :
    Gen.Loops.prefixSidRegistry.map (·.1) = prefixSidRegistered ∧
    Gen.Loops.l3ServiceRegistry.map (·.1) = l3ServiceRegistered ∧
    Gen.Loops.sidInformationRegistry.map (·.1) = sidInformationRegistered := by decide

/-- **C11, TLV loops.**  For every loop shape, EVERY body decoder and EVERY byte string: the loop starts at most
    one iteration per octet (sharper: all iterations but possibly the last own `hdr` octets of the input), and
    produces at most one element per iteration. -/
theorem C11_tlv_work_bound {α ε : Type} (sh : Shape) (body : Bytes → Bytes → Except ε (Option α)) (b : Bytes) :
    (tlvRun sh body b).steps ≤ b.length ∧
    sh.hdr * (tlvRun sh body b).steps ≤ b.length + (sh.hdr - 1) ∧
    (tlvRun sh body b).vals.length ≤ (tlvRun sh body b).steps := by
  have hp := sh.hpos
  fun_induction tlvRun sh body b with
  | case1 => simp
  | case2 b hb hs => have := List.length_pos_iff.mpr hb; simp only [Nat.mul_one, List.length_nil]; omega
  | case3 b hb hs e he => simp only [Nat.mul_one, List.length_nil]; omega
  | case4 b hb hs x hx ih =>
    -- one more pass: it owns `hdr` octets or more, the passes after it are bounded by what is left
    have := restOf_length_le sh b
    have : x.toList.length ≤ 1 := by cases x <;> simp
    simp only [Run.push, List.length_append, Nat.mul_add, Nat.mul_one]
    omega

/-- the same for each instance of the code, on the bytes handed to the enclosing decoder (the preamble is
    dropped by a slice, which cannot fail) -/
theorem C11_tlv_work_bound_instances {α ε : Type} (i : Instance) (_hi : i ∈ instances)
    (body : Bytes → Bytes → Except ε (Option α)) (data : Bytes) :
    (i.run body data).steps ≤ data.length ∧ (i.run body data).vals.length ≤ data.length := by
  have h := C11_tlv_work_bound i.shape body (data.drop i.skip)
  have hl : (data.drop i.skip).length ≤ data.length := by simp
  unfold Instance.run
  omega

/-- the header sizes: every iteration of every instance consumes at least two octets -/
theorem C11_tlv_instances_advance : ∀ i ∈ instances, 2 ≤ i.shape.hdr := by decide

/-- **totality.**  Whatever the body decoders do, a run ends in exactly one of three ways: the input was used up,
    1 ≤ k < hdr octets were left over (struct.error), or a body decoder raised; never anything else, and the
    split the harness drives the real decoders with never reports a failure of its own. -/
theorem C11_tlv_total {α ε : Type} (sh : Shape) (body : Bytes → Bytes → Except ε (Option α)) (b : Bytes) :
    (tlvRun sh body b).stop = .done ∨
    (∃ r, (tlvRun sh body b).stop = .short r) ∨
    (∃ h v e, (tlvRun sh body b).stop = .fail h v e ∧ body h v = .error e) := by
  cases hs : (tlvRun sh body b).stop with
  | done => exact .inl rfl
  | short r => exact .inr (.inl ⟨r, rfl⟩)
  | fail h v e => exact .inr (.inr ⟨h, v, e, rfl, tlvRun_fail hs⟩)

/-- the loop IS "split by the shape, then map the per-TLV decoder over the pairs, stopping at the first that
    raises" - the factorisation the correspondence suite relies on when it maps the REAL per-TLV decoders over
    the model's split -/
theorem C11_tlv_split_then_map {α ε : Type} (sh : Shape) (body : Bytes → Bytes → Except ε (Option α)) (b : Bytes) :
    tlvRun sh body b = walk body (tlvSplit sh b).vals (tlvSplit sh b).stop.cast ∧
    (∀ h v e, (tlvSplit sh b).stop ≠ .fail h v e) :=
  ⟨tlvRun_eq_walk sh body b, fun h v e => tlvSplit_stop_ne_fail sh b h v e⟩

/-- **nesting.**  Counting the iterations of the attribute loop AND of every nested sub-TLV loop reached through
    a registered container (1106 inside 1106 inside …, the only recursion the dispatch allows): still at most one
    per octet, so the recursion depth is bounded by the input as well -/
theorem C11_tlv_nested_work_bound (nest : Bytes → Option Nat) (sh : Shape) (b : Bytes) :
    deepSteps sh nest b ≤ b.length := by
  have hp := sh.hpos
  fun_induction deepSteps sh nest b with
  | case1 => exact Nat.le_refl _
  | case2 b hb hs => exact List.length_pos_iff.mpr hb
  | case3 b hb hs ihv ihr =>
    have := valOf_restOf_length sh b
    split
    · have := ihv ‹_›; rw [List.length_drop] at this; omega
    · omega

theorem C11_ls_attr_nested_work_bound (b : Bytes) : deepSteps tlv22 lsNest b ≤ b.length :=
  C11_tlv_nested_work_bound lsNest tlv22 b

/-- `for … in range(start, stop, step)`: as many iterations as the range is long, never more than `stop` -/
theorem C11_range_bound (start stop step n : Nat) (h : rangeLen start stop step = some n) : n ≤ stop := by
  unfold rangeLen at h
  split at h
  · cases h
  · rename_i hs
    cases h
    -- numerator `≤ stop + (step - 1) < step * (stop + 1)`
    have : stop ≤ step * stop := Nat.le_mul_of_pos_left stop (Nat.pos_of_ne_zero hs)
    exact Nat.le_of_lt_succ (Nat.div_lt_of_lt_mul (by rw [Nat.mul_succ]; omega))

/-! ### non-vacuity: concrete runs (computed by applying the theorems, `decide` does not unfold the recursion) -/

/-- a node-name TLV (1026, "ab") followed by an unknown TLV 9 of length 1 and two stray octets: two iterations
    with an element, a third that finds a short header -/
example :
    tlvRun tlv22 (fun h v => (.ok (some (tlv22.typ h, v)) : Except Unit (Option (Nat × Bytes))))
      (enc [(hdr22 1026 2, [97, 98]), (hdr22 9 1, [7])] ++ [0, 1])
    = { vals := [(1026, [97, 98]), (9, [7])], stop := .short [0, 1], steps := 3 } := by
  rw [tlvRun_enc_append _ _ _ (by intro hv hm; simp at hm; rcases hm with rfl | rfl <;> decide)]
  rw [tlvRun_short _ _ _ (by decide) (by decide)]
  rfl

example : (3 : Nat) ≤ (enc [(hdr22 1026 2, [97, 98]), (hdr22 9 1, ([7] : Bytes))] ++ [0, 1]).length := by decide

end Yabgp

#print axioms Yabgp.gen_loops_covered
#print axioms Yabgp.gen_loops_advance
#print axioms Yabgp.covered_instances_exist
#print axioms Yabgp.gen_ls_registry
#print axioms Yabgp.gen_ls_special
#print axioms Yabgp.gen_ls_two_arg
#print axioms Yabgp.gen_ls_no_unpack
#print axioms Yabgp.gen_psid_registries
#print axioms Yabgp.C11_tlv_work_bound
#print axioms Yabgp.C11_tlv_work_bound_instances
#print axioms Yabgp.C11_tlv_instances_advance
#print axioms Yabgp.C11_tlv_total
#print axioms Yabgp.C11_tlv_split_then_map
#print axioms Yabgp.C11_tlv_nested_work_bound
#print axioms Yabgp.C11_ls_attr_nested_work_bound
#print axioms Yabgp.C11_range_bound
