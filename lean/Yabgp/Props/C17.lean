/-
  C17 — decoded community text is accepted back by the REST API and re-encodes the same.

  For every extended-community kind the decoder renders as text (route-target / route-origin with 2-octet AS, IPv4 and
  4-octet AS administrators, color, encapsulation, redirect-vrf, redirect-nexthop, traffic-rate, traffic-action,
  traffic-marking, dmzlink-bw, esi-label, mac-mobility, es-import, router-mac) and every field tuple in range:
     * the REST translation of yabgp/api/v1.py turns the text form of the value into the item `item v`
       (`C17_translate`), for ANY peer state when the kind has no 4-octet AS, else for a peer that advertised the
       4-octet AS capability (the views refuse it otherwise: stated restriction);
     * `ExtCommunity.construct` encodes that item to exactly the octets the RFCs require (`C17_construct_one`);
     * `ExtCommunity.parse` renders those octets as exactly that text (`C17_decode_one`);
  lifted to whole lists / the whole attribute in `C17_extcomm` (text list -> REST -> attribute octets = reference
  attribute, which decodes to the identical text list).  Communities: all 2^32 values by classes incl. every name of
  the table GENERATED from constants.py (`C17_community`, `C17_wellknown_names`); large communities with fields up to
  2^32-1 (`C17_large`).

  Stated restrictions (not defects):
    * traffic-rate / dmzlink-bw carry an IEEE 754 binary32: the value must be a natural number that binary32 represents
      exactly (`f32Exact`); the text is its decimal expansion (the decoder prints `int(rate)`);
    * a 4-octet-AS administrator below 65536 has the same text as the 2-octet-AS form and is re-encoded as the latter
      (RFC 5668 §3 asks for exactly that); `C17_as4_small_as_is_ambiguous` records the witness;
    * attribute length: at most 31 extended / 63 plain / 21 large communities fit the 1-octet length yabgp uses.
  The model is the code after the repairs listed in Model/ExtComm.lean.
-/
import Yabgp.Lemmas.ExtCommRt
import Yabgp.Lemmas.AttrRt
import Yabgp.Props.GenAgree

namespace Yabgp.C17
open Yabgp.Text Yabgp.RfcExt Yabgp.ExtComm

/-- the item the REST layer must hand to the constructor for a value -/
def item : EC → Item
  | .rtAs2 a n => .str 2 (decStr a ++ ':' :: decStr n)
  | .rtIp4 ip n => .str 258 (ipv4Str ip ++ ':' :: decStr n)
  | .rtAs4 a n => .str 514 (decStr a ++ ':' :: decStr n)
  | .roAs2 a n => .str 3 (decStr a ++ ':' :: decStr n)
  | .roIp4 ip n => .str 259 (ipv4Str ip ++ ':' :: decStr n)
  | .roAs4 a n => .str 515 (decStr a ++ ':' :: decStr n)
  | .color c => .str 779 (decStr c)
  | .encap t => .str 780 (decStr t)
  | .redirectVrf a n => .str 32776 (decStr a ++ ':' :: decStr n)
  | .redirectNh ip c => .nh (ipv4Str ip) (Int.ofNat c)
  | .trafficRate a r => .str 32774 (decStr a ++ ':' :: decStr r)
  | .trafficAction s t => .action (some (Int.ofNat s.toNat)) (some (Int.ofNat t.toNat))
  | .trafficMarking d => .num 32777 (Int.ofNat d)
  | .linkBw a b => .str 16388 (decStr a ++ ':' :: decStr b)
  | .esiLabel f l => .num2 1537 (Int.ofNat f) (Int.ofNat l)
  | .macMobility f s => .num2 1536 (Int.ofNat f) (Int.ofNat s)
  | .esImport m => .str 1538 (macText m)
  | .routerMac m => .str 1539 (macText m)

/-- what the peer must have advertised for the REST layer to accept the value -/
def PeerOk (p : Peer) (v : EC) : Prop := v.needsAs4 = true → p.remoteCaps = true ∧ p.fourBytesAs = true

theorem C17_translate (p : Peer) (v : EC) (hr : v.inRange = true) (hp : PeerOk p v) :
    translateOne p (text v) = .ok [item v] := by
  cases v <;> simp only [EC.inRange, Bool.and_eq_true, decide_eq_true_eq] at hr
  case rtAs2 a n => exact (tr_routeTarget p (plain_decPair a n)).trans (adminOne_as2 _ _ _ p n hr.1)
  case rtIp4 ip n => exact (tr_routeTarget p (plain_ipPair ip n)).trans (adminOne_ip4 _ _ _ p ip n)
  case rtAs4 a n =>
    exact (tr_routeTarget p (plain_decPair a n)).trans (adminOne_as4 _ _ _ p n hr.1.1 (hp rfl))
  case roAs2 a n => exact (tr_routeOrigin p (plain_decPair a n)).trans (adminOne_as2 _ _ _ p n hr.1)
  case roIp4 ip n => exact (tr_routeOrigin p (plain_ipPair ip n)).trans (adminOne_ip4 _ _ _ p ip n)
  case roAs4 a n =>
    exact (tr_routeOrigin p (plain_decPair a n)).trans (adminOne_as4 _ _ _ p n hr.1.1 (hp rfl))
  case color c | encap c =>
    exact (tr_dict ⟨by decide, by decide, fun _ => rfl⟩ (plain_decStr c)).trans
      (dictOne_str (by decide) (noWs_decStr c))
  case trafficRate a r =>
    exact (tr_dict ⟨by decide, by decide, fun _ => rfl⟩ (plain_decPair a r)).trans
      (dictOne_str (by decide) (plain_decPair a r).1)
  case esImport m | routerMac m =>
    exact (tr_dict ⟨by decide, by decide, fun _ => rfl⟩ (plain_macText m)).trans
      (dictOne_str (by decide) (plain_macText m).1)
  case trafficMarking d =>
    exact (tr_dict ⟨by decide, by decide, fun _ => rfl⟩ (plain_decStr d)).trans (dictOne_marking d)
  case redirectVrf a n => exact tr_redirectVrf ⟨by decide, by decide, fun _ => rfl⟩ (plain_decPair a n).1
  case redirectNh ip c => exact tr_redirectNh ⟨by decide, by decide, fun _ => rfl⟩ ip c
  case trafficAction s t => exact tr_action ⟨by decide, by decide, fun _ => rfl⟩ s.toNat t.toNat
  case linkBw a b => exact tr_linkBw ⟨by decide, by decide, fun _ => rfl⟩ (plain_decPair a b)
  case esiLabel f l | macMobility f l => exact tr_dict1 ⟨by decide, by decide, fun _ => rfl⟩ f l

theorem C17_construct_one (v : EC) (hr : v.inRange = true) : constructOne (item v) = some (rfcBytes v) := by
  cases v <;> simp only [EC.inRange, Bool.and_eq_true, decide_eq_true_eq] at hr
  case rtAs2 a n | roAs2 a n | redirectVrf a n => exact conAs2_dec _ hr.1 hr.2
  case rtIp4 ip n | roIp4 ip n => exact conIp4_dec _ hr.1 hr.2
  case rtAs4 a n | roAs4 a n => exact conAs4_dec _ hr.1.2 hr.2
  case color c => exact conOpaque_dec 779 hr
  case encap t => exact (conOpaque_dec 780 (by omega)).trans (by rw [be32_small hr]; rfl)
  case trafficRate a r | linkBw a r => exact conRate_dec _ hr.1 hr.2
  case redirectNh ip c => simp only [item, constructOne, pyIpv4_ipv4Str hr.1, inRange_ofNat hr.2]; rfl
  case trafficAction s t => cases s <;> cases t <;> rfl
  case trafficMarking d => simp only [item, constructOne, ↓reduceIte, inRange_ofNat (show d < 256 by omega)]; rfl
  case esiLabel f l =>
    simp only [item, constructOne, ↓reduceIte, inRange_ofNat hr.1, inRange_ofNat (show l < 268435456 by omega)]; rfl
  case macMobility f s => simp only [item, constructOne, ↓reduceIte, inRange_ofNat hr.1, inRange_ofNat hr.2]; rfl
  case esImport m | routerMac m => exact conMac_text _ m

/-- the structured value the decoder extracts from the reference octets -/
def valOf : EC → Val
  | .rtAs2 a n => .as2 2 a n
  | .rtIp4 ip n => .ip4 258 ip n
  | .rtAs4 a n => .as4 514 a n
  | .roAs2 a n => .as2 3 a n
  | .roIp4 ip n => .ip4 259 ip n
  | .roAs4 a n => .as4 515 a n
  | .color c => .opaque 779 c
  | .encap t => .opaque 780 t
  | .redirectVrf a n => .as2 32776 a n
  | .redirectNh ip c => .ip4 2048 ip c
  | .trafficRate a r => .rate 32774 a false r
  | .trafficAction s t => .action s.toNat t.toNat
  | .trafficMarking d => .mark d
  | .linkBw a b => .rate 16388 a false b
  | .esiLabel f l => .esiLabel f l
  | .macMobility f s => .macMob f s
  | .esImport m => .mac 1538 (m / 1099511627776 % 256) (m / 4294967296 % 256) (m / 16777216 % 256) (m / 65536 % 256)
      (m / 256 % 256) (m % 256)
  | .routerMac m => .mac 1539 (m / 1099511627776 % 256) (m / 4294967296 % 256) (m / 16777216 % 256) (m / 65536 % 256)
      (m / 256 % 256) (m % 256)

theorem render_valOf (v : EC) : render (valOf v) = .text (text v) := by
  cases v <;> rfl

theorem C17_decode_one (v : EC) (hr : v.inRange = true) (rest : Bytes) :
    decodeAll (rfcBytes v ++ rest) = consVal (valOf v) (decodeAll rest) := by
  cases v <;> simp only [EC.inRange, Bool.and_eq_true, decide_eq_true_eq] at hr <;> apply decodeAll_of_one
  case rtAs2 a n | roAs2 a n | redirectVrf a n => rw [decodeOne_as2 (by decide), n16_be hr.1, n32_be hr.2]; rfl
  case rtIp4 ip n | roIp4 ip n | redirectNh ip n => rw [decodeOne_ip4 (by decide), n32_be hr.1, n16_be hr.2]; rfl
  case rtAs4 a n | roAs4 a n => rw [decodeOne_as4 (by decide), n32_be hr.1.2, n16_be hr.2]; rfl
  case color c => rw [decodeOne_opaque (by decide), n32_be hr]; rfl
  case encap t => rw [decodeOne_opaque (by decide), n32_low, n16_be hr]; rfl
  case trafficRate a r | linkBw a r => rw [decodeOne_rate (by decide), decodeRate_exact _ hr.1 hr.2]; rfl
  case trafficAction s t => rw [decodeOne_action (by decide)]; cases s <;> cases t <;> rfl
  case trafficMarking d => rw [decodeOne_mark (by decide), u8_toNat (by omega)]; rfl
  case esiLabel f l =>
    rw [decodeOne_esiLabel (by decide), u8_toNat hr.1]
    simp only [u8_toNat_mod, valOf]
    congr 2; omega
  case macMobility f q => rw [decodeOne_macMob (by decide), u8_toNat hr.1, n32_be hr.2]; rfl
  case esImport m | routerMac m =>
    rw [decodeOne_mac (by decide)]; simp only [u8_toNat_mod, Nat.div_div_eq_div_mul, Nat.reduceMul]; rfl

theorem C17_translate_list (p : Peer) (vs : List EC) (hr : ∀ v ∈ vs, v.inRange = true) (hp : ∀ v ∈ vs, PeerOk p v) :
    translate p (vs.map text) = .ok (vs.map item) := by
  induction vs with
  | nil => rfl
  | cons v r ih =>
    rw [List.forall_mem_cons] at hr hp
    exact trList_cons_ok (C17_translate p v hr.1 hp.1) (ih hr.2 hp.2)

theorem C17_constructBody (vs : List EC) (hr : ∀ v ∈ vs, v.inRange = true) :
    constructBody (vs.map item) = some (vs.flatMap rfcBytes) := by
  induction vs with
  | nil => rfl
  | cons v r ih =>
    rw [List.forall_mem_cons] at hr
    simp only [List.map_cons, constructBody, C17_construct_one v hr.1, ih hr.2, List.flatMap_cons]

/-- the constructor builds exactly the reference attribute (1 to 31 communities fit its 1-octet length) -/
theorem C17_construct (vs : List EC) (hr : ∀ v ∈ vs, v.inRange = true) (hne : vs ≠ []) (hlen : vs.length ≤ 31) :
    construct (vs.map item) = .ok (rfcAttr vs) := by
  unfold construct
  rw [C17_constructBody vs hr]
  have hl := flatMap_rfcBytes_length vs
  cases hb : vs.flatMap rfcBytes with
  | nil =>
    rw [hb] at hl
    cases vs with
    | nil => exact absurd rfl hne
    | cons v r => simp at hl
  | cons b bs =>
    rw [hb] at hl
    simp only
    rw [if_pos (by rw [hl]; omega), hl]
    simp only [rfcAttr, hb]
    rfl

theorem C17_decodeAll (vs : List EC) (hr : ∀ v ∈ vs, v.inRange = true) :
    decodeAll (vs.flatMap rfcBytes) = .ok (vs.map valOf) := by
  induction vs with
  | nil => rfl
  | cons v r ih =>
    rw [List.forall_mem_cons] at hr
    rw [List.flatMap_cons, C17_decode_one v hr.1, ih hr.2]; rfl

/-- the decoder renders the reference octets of a list of values as exactly their text forms -/
theorem C17_parse (vs : List EC) (hr : ∀ v ∈ vs, v.inRange = true) :
    parse (vs.flatMap rfcBytes) = .ok (vs.map fun v => .text (text v)) := by
  unfold parse parseVals
  rw [flatMap_rfcBytes_length, if_neg (by omega), C17_decodeAll vs hr]
  simp only [List.map_map]
  congr 1
  apply List.map_congr_left
  intro v _
  exact render_valOf v

/-- C17 for extended communities, end to end: the decoded texts of any non-empty list of in-range values, posted to
    the REST interface of a session whose peer may be offered them, are accepted; the attribute produced is the
    reference attribute octet for octet; and decoding it renders the identical texts -/
theorem C17_extcomm (p : Peer) (vs : List EC) (hr : ∀ v ∈ vs, v.inRange = true) (hp : ∀ v ∈ vs, PeerOk p v)
    (hne : vs ≠ []) (hlen : vs.length ≤ 31) :
    parse (vs.flatMap rfcBytes) = .ok (vs.map fun v => .text (text v)) ∧
    rest p (vs.map text) = .ok (rfcAttr vs) ∧
    parse ((rfcAttr vs).drop 3) = .ok (vs.map fun v => .text (text v)) := by
  refine ⟨C17_parse vs hr, ?_, ?_⟩
  · unfold rest
    rw [C17_translate_list p vs hr hp]
    simp only [C17_construct vs hr hne hlen]
  · have : (rfcAttr vs).drop 3 = vs.flatMap rfcBytes := by simp [rfcAttr]
    rw [this]; exact C17_parse vs hr

/-- the stated restriction is the code's own policy: a 4-octet AS administrator is refused (not mis-encoded) when
    the peer did not advertise the capability -/
theorem C17_as4_refused (p : Peer) (a n : Nat) (hr : (EC.rtAs4 a n).inRange = true)
    (hp : p.remoteCaps = true ∧ p.fourBytesAs = false) :
    translateOne p (text (.rtAs4 a n)) = .refused 2 ∧ translateOne p (text (.roAs4 a n)) = .refused 2 := by
  simp only [EC.inRange, Bool.and_eq_true, decide_eq_true_eq] at hr
  exact ⟨(tr_routeTarget p (plain_decPair a n)).trans (adminOne_as4_refused _ _ _ p n hr.1.1 hp),
    (tr_routeOrigin p (plain_decPair a n)).trans (adminOne_as4_refused _ _ _ p n hr.1.1 hp)⟩

/-- why a 4-octet AS administrator below 65536 is outside `inRange`: its text is the text of the 2-octet form,
    whose reference octets differ (RFC 5668 §3 prescribes the 2-octet form for such AS numbers) -/
theorem C17_as4_small_as_is_ambiguous :
    text (.rtAs4 100 5) = text (.rtAs2 100 5) ∧ rfcBytes (.rtAs4 100 5) ≠ rfcBytes (.rtAs2 100 5) :=
  ⟨rfl, by decide⟩

/-- C17 for COMMUNITIES: every list of 32-bit values (whatever their class: well-known names of the table, the
    reserved ranges 0x0000xxxx / 0xFFFFxxxx without a name, ordinary "asn:value") is rendered, read back by
    `Community.construct` to the RFC 1997 attribute, and that decodes to the same texts -/
theorem C17_community (vs : List Nat) (h : ∀ v ∈ vs, v < 4294967296) (hlen : vs.length ≤ 63) :
    CommText.parseCommText (vs.flatMap be32) = .ok (vs.map commStr) ∧
    CommText.constructComm (vs.map commStr) = some (rfcCommunityAttr vs) := by
  constructor
  · unfold CommText.parseCommText parseCommunity
    rw [flatMap_be32_length, if_pos (by omega), words32_flatMap_be32 vs h]
  · unfold CommText.constructComm
    rw [mapM_parseComm vs h]
    have hall : vs.all (· < 4294967296) = true := by simpa [List.all_eq_true] using h
    simp only [Option.bind_some, constructAttr, C.tCommunity, hall, and_self, ↓reduceIte, attrHdr1,
      flatMap_be32_length]
    rw [if_pos (by omega)]
    rfl

/-- every name of the table GENERATED from constants.py is what the decoder renders for its value and is read back
    as that value -/
theorem C17_wellknown_names :
    ∀ e ∈ Gen.Const.wellKnownInt2Str, commStr e.1 = e.2.toList ∧ parseComm e.2.toList = some e.1 := by
  rw [GenAgree.well_known_int2str]
  exact fun e he => ⟨commStr_wellKnown he, parseComm_wellKnown he⟩

/-- the encoder's generated reverse table is the decoder's table with upper-cased names (the lookup upper-cases) -/
theorem C17_wellknown_reverse_table :
    Gen.Const.wellKnownStr2Int = Gen.Const.wellKnownInt2Str.map (fun e => (e.1, String.ofList (upper e.2.toList))) := by
  rw [GenAgree.well_known_int2str]; exact GenAgree.well_known_str2int

/-- C17 for LARGE_COMMUNITY: fields up to 2^32 - 1 -/
theorem C17_large (ts : List (Nat × Nat × Nat))
    (h : ∀ t ∈ ts, t.1 < 4294967296 ∧ t.2.1 < 4294967296 ∧ t.2.2 < 4294967296) (hlen : ts.length ≤ 21) :
    CommText.parseLargeText (ts.flatMap fun t => be32 t.1 ++ be32 t.2.1 ++ be32 t.2.2) = .ok (ts.map largeStr) ∧
    CommText.constructLarge (ts.map largeStr) = some (rfcLargeAttr ts) := by
  constructor
  · unfold CommText.parseLargeText parseLargeCommunity
    rw [triples_flat_length, if_pos (by omega), triples_words ts h]
  · unfold CommText.constructLarge
    rw [mapM_parseLarge ts]
    have hall : ts.all (fun t => t.1 < 4294967296 ∧ t.2.1 < 4294967296 ∧ t.2.2 < 4294967296) = true := by
      simpa [List.all_eq_true] using h
    simp only [Option.bind_some, constructAttr, C.tLargeCommunity, hall, and_self, ↓reduceIte, attrHdr1,
      triples_flat_length]
    rw [if_pos (by omega)]
    rfl

/-! ### the constants the model hard-codes are the ones generated from constants.py -/

open Yabgp.Gen in
theorem C17_ext_codes :
    [Const.BGP_EXT_COM_RT_0, Const.BGP_EXT_COM_RT_1, Const.BGP_EXT_COM_RT_2, Const.BGP_EXT_COM_RO_0,
     Const.BGP_EXT_COM_RO_1, Const.BGP_EXT_COM_RO_2, Const.BGP_EXT_REDIRECT_NH, Const.BGP_EXT_TRA_RATE,
     Const.BGP_EXT_TRA_ACTION, Const.BGP_EXT_REDIRECT_VRF, Const.BGP_EXT_TRA_MARK, Const.BGP_EXT_COM_COLOR,
     Const.BGP_EXT_COM_COLOR_00, Const.BGP_EXT_COM_COLOR_01, Const.BGP_EXT_COM_COLOR_10, Const.BGP_EXT_COM_COLOR_11,
     Const.BGP_EXT_COM_ENCAP, Const.BGP_EXT_COM_EVPN_MAC_MOBIL, Const.BGP_EXT_COM_EVPN_ESI_MPLS_LABEL,
     Const.BGP_EXT_COM_EVPN_ES_IMPORT, Const.BGP_EXT_COM_EVPN_ROUTE_MAC, Const.BGP_EXT_COM_LINK_BW,
     Const.BGP_EXT_COM_UNKNOW, Const.BGPTYPE_EXTENDED_COMMUNITY, Const.BGPTYPE_COMMUNITIES,
     Const.BGPTYPE_LARGE_COMMUNITY, Const.ERR_MSG_UPDATE_ATTR_LEN]
    = [2, 258, 514, 3, 259, 515, 2048, 32774, 32775, 32776, 32777, 779, 51052544, 51068928, 51085312, 51101696, 780,
       1536, 1537, 1538, 1539, 16388, 0, C.tExtCommunity, C.tCommunity, C.tLargeCommunity, C.eAttrLen] := by
  decide

theorem nameOf_of_mem {c : Nat} {s : String} (h : (c, s) ∈ strDict) : nameOf c = s.toList := by
  have hd : (strDict.map (·.1)).Nodup := by decide
  rw [nameOf, find?_key_of_mem (·.1) hd h]

/-- every code of the model's name table is one of those constants, with the name the decoder prints -/
theorem C17_names :
    strDict.map (·.1) = [258, 2, 514, 779, 16388, 259, 515, 3, 32776, 2048, 1537, 1536, 32777, 32774, 51052544,
      51068928, 51085312, 51101696, 780, 1538, 1539, 32775] ∧
    (∀ e ∈ dict, nameOf e.2 = e.1.toList) ∧ (∀ e ∈ dict1, nameOf e.2 = e.1.toList) := by
  have h : ∀ e ∈ dict, (e.2, e.1) ∈ strDict := by decide
  have h1 : ∀ e ∈ dict1, (e.2, e.1) ∈ strDict := by decide
  exact ⟨by rfl, fun e he => nameOf_of_mem (h e he), fun e he => nameOf_of_mem (h1 e he)⟩

/-! ### non-vacuity: concrete values meet the hypotheses, and the statements compute -/

example : (EC.rtAs4 70000 5).inRange = true ∧ (EC.trafficRate 65000 1000).inRange = true ∧
    (EC.linkBw 65000 125000000).inRange = true ∧ (EC.esImport 0xaabbccddeeff).inRange = true ∧
    (EC.trafficAction true false).inRange = true ∧ (EC.esiLabel 1 1048575).inRange = true := by decide

example : PeerOk { remoteCaps := true, fourBytesAs := true } (.rtAs4 70000 5) := fun _ => ⟨rfl, rfl⟩
example : PeerOk { remoteCaps := false, fourBytesAs := false } (.roAs2 65000 5) := fun h => by cases h

/-- an instance of the end-to-end theorem: five kinds in one attribute, towards a peer with the 4-octet AS capability -/
example :
    rest { remoteCaps := true, fourBytesAs := true }
      ([.rtAs4 70000 5, .roIp4 0x0a000001 7, .trafficRate 65000 1000, .esImport 0xaabbccddeeff, .trafficAction true false].map text)
      = .ok (rfcAttr [.rtAs4 70000 5, .roIp4 0x0a000001 7, .trafficRate 65000 1000, .esImport 0xaabbccddeeff,
                      .trafficAction true false]) :=
  (C17_extcomm _ _ (by decide) (by intro v _ _; exact ⟨rfl, rfl⟩) (by decide) (by decide)).2.1

example : rfcBytes (.trafficRate 65000 1000) = [0x80, 0x06, 0xfd, 0xe8, 0x44, 0x7a, 0x00, 0x00] := by decide
example : rfcBytes (.linkBw 65000 125000000) = [0x40, 0x04, 0xfd, 0xe8, 0x4c, 0xee, 0x6b, 0x28] := by decide

example : CommText.constructComm ([0xFFFFFF01, 0xFFFF0003, 65000 * 65536 + 100].map commStr)
    = some (rfcCommunityAttr [0xFFFFFF01, 0xFFFF0003, 65000 * 65536 + 100]) :=
  (C17_community _ (by decide) (by decide)).2

end Yabgp.C17

#print axioms Yabgp.C17.C17_translate
#print axioms Yabgp.C17.C17_construct_one
#print axioms Yabgp.C17.C17_decode_one
#print axioms Yabgp.C17.C17_translate_list
#print axioms Yabgp.C17.C17_construct
#print axioms Yabgp.C17.C17_parse
#print axioms Yabgp.C17.C17_extcomm
#print axioms Yabgp.C17.C17_as4_refused
#print axioms Yabgp.C17.C17_as4_small_as_is_ambiguous
#print axioms Yabgp.C17.C17_community
#print axioms Yabgp.C17.C17_wellknown_names
#print axioms Yabgp.C17.C17_wellknown_reverse_table
#print axioms Yabgp.C17.C17_large
#print axioms Yabgp.C17.C17_ext_codes
#print axioms Yabgp.C17.C17_names
#print axioms Yabgp.Text.parseDec_decStr
#print axioms Yabgp.Text.parseIpv4_ipv4Str
#print axioms Yabgp.Text.parseComm_commStr
#print axioms Yabgp.Text.parseLarge_largeStr
#print axioms Yabgp.ExtComm.packF_exact
#print axioms Yabgp.ExtComm.unpackF_exact
