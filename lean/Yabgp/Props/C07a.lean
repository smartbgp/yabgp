/-
  C07 (part a) — multiprotocol NLRI round trip for IPv6 unicast, IPv4/IPv6 labeled unicast, VPNv4/VPNv6 and the
  MP_REACH_NLRI / MP_UNREACH_NLRI wrappers, plus the C15 compositionality statements for the same list decoders.
  The lemmas behind the property theorems are in Yabgp/Lemmas/MpRt.lean.  The models are those of the repaired
  code (IPv6 address text, `construct_prefix_v6`, `construct_prefix_v4` for /0, the bottom-of-stack bit on a last
  label 0, VPN offsets that follow the number of labels decoded).

  Three input classes stay outside the round trip on the repaired code; each is excluded by an explicit decidable
  hypothesis and witnessed by a `KF_` theorem:
    * IPv6 unicast: a route list whose encoding leaves exactly 00 00 at a loop head (`¬ U6Safe`), i.e. two
      trailing `::/0` - the decoder's `b'\x00\x00'` special case, asserted by the repository's own test_parse_2;
    * labeled unicast: a label stack ending in label 0 (the shared encoder omits the bottom-of-stack bit;
      asserted by test_l2vpn_evpn_construct_route_type2);
    * labeled unicast MP_UNREACH_NLRI: encoded for (1,4) but decoded for neither (1,4) nor (2,4).
-/
import Yabgp.Lemmas.MpRt
import Yabgp.Gen.Constants
import Yabgp.Gen.AttrFlags

namespace Yabgp.Mp

/-- the constants the models of this part write as literals, against the tables regenerated from the source on
    every run: RD wire types 0/1/2, attribute type codes 14/15, attribute flags 0x90, UPDATE error sub-code 5.
    (The AFI/SAFI numbers of afn.py / safn.py are not among the generated tables; they are tied by the
    correspondence check on the header dispatch.) -/
theorem C07_generated_constants :
    [Gen.Const.BGP_ROUTE_DISTINGUISHER_TYPE_0, Gen.Const.BGP_ROUTE_DISTINGUISHER_TYPE_1,
     Gen.Const.BGP_ROUTE_DISTINGUISHER_TYPE_2, Gen.Const.BGPTYPE_MP_REACH_NLRI, Gen.Const.BGPTYPE_MP_UNREACH_NLRI,
     Gen.Const.ERR_MSG_UPDATE_ATTR_LEN, Gen.Attr.MpReachNLRI_FLAG, Gen.Attr.MpUnReachNLRI_FLAG]
    = [0, 1, 2, C.tMpReach, C.tMpUnreach, C.eAttrLen, 0x90, 0x90] ∧
    C.tMpReach = 14 ∧ C.tMpUnreach = 15 ∧ C.eAttrLen = 5 := by decide

theorem C15_ipv6_prefixes (xs : List U6Route) (w rest : Bytes)
    (hok : ∀ r ∈ xs, U6Ok r) (hs : U6Safe xs rest) (hw : constructU6 xs = some w) :
    parseU6 false (w ++ rest) = (parseU6 false rest).map (xs ++ ·) :=
  many_enc stopU6 (stepU6 false) (stepU6_length false) encU6Route xs w rest hw
    (fun x hx => (u6_route x (hok x hx)).spec) (u6_noStop xs rest hok hs)

theorem C15_labeled (af : AF) (xs : List LuRoute) (w rest : Bytes)
    (hok : ∀ r ∈ xs, LuOk af r) (hw : constructLu af xs = some w) :
    parseLu af false (w ++ rest) = (parseLu af false rest).map (xs ++ ·) :=
  many_enc (fun _ => false) (stepLu af false) (stepLu_length af false) (encLuRoute af) xs w rest hw
    (fun x hx => (lu_route af x (hok x hx)).spec) (noStop_const_false _ xs rest)

theorem C15_vpn (af : AF) (wd : Bool) (xs : List VpnRoute) (w rest : Bytes)
    (hok : ∀ r ∈ xs, VpnOk af wd r) (hw : constructVpn af wd xs = some w) :
    parseVpn af wd false (w ++ rest) = (parseVpn af wd false rest).map (xs ++ ·) :=
  many_enc (fun _ => false) (stepVpn af wd false) (stepVpn_length af wd false) (encVpnRoute af wd) xs w rest hw
    (fun x hx => (vpn_route af wd x (hok x hx)).spec) (noStop_const_false _ xs rest)

/-- C15 in the form of the property text, labeled unicast: decode(a ‖ b) = decode(a) ++ decode(b) -/
theorem C15_labeled_concat (af : AF) (xs ys : List LuRoute) (a b : Bytes)
    (hx : ∀ r ∈ xs, LuOk af r) (hy : ∀ r ∈ ys, LuOk af r)
    (ha : constructLu af xs = some a) (hb : constructLu af ys = some b) :
    parseLu af false a = .ok xs ∧ parseLu af false b = .ok ys ∧ parseLu af false (a ++ b) = .ok (xs ++ ys) :=
  many_concat _ _ (stepLu_length af false) (encLuRoute af) xs ys a b ha hb
    (fun x h => lu_route af x (hx x h)) (fun y h => lu_route af y (hy y h))
    (noStop_const_false _ xs []) (noStop_const_false _ ys []) (noStop_const_false _ xs b)

theorem C15_vpn_concat (af : AF) (wd : Bool) (xs ys : List VpnRoute) (a b : Bytes)
    (hx : ∀ r ∈ xs, VpnOk af wd r) (hy : ∀ r ∈ ys, VpnOk af wd r)
    (ha : constructVpn af wd xs = some a) (hb : constructVpn af wd ys = some b) :
    parseVpn af wd false a = .ok xs ∧ parseVpn af wd false b = .ok ys ∧
      parseVpn af wd false (a ++ b) = .ok (xs ++ ys) :=
  many_concat _ _ (stepVpn_length af wd false) (encVpnRoute af wd) xs ys a b ha hb
    (fun x h => vpn_route af wd x (hx x h)) (fun y h => vpn_route af wd y (hy y h))
    (noStop_const_false _ xs []) (noStop_const_false _ ys []) (noStop_const_false _ xs b)

/-- IPv6 prefix lists: the same, as long as the concatenation does not put 00 00 at a loop head -/
theorem C15_ipv6_prefixes_concat (xs ys : List U6Route) (a b : Bytes)
    (hx : ∀ r ∈ xs, U6Ok r) (hy : ∀ r ∈ ys, U6Ok r)
    (hsx : U6Safe xs []) (hsy : U6Safe ys []) (hsxy : U6Safe xs b)
    (ha : constructU6 xs = some a) (hb : constructU6 ys = some b) :
    parseU6 false a = .ok xs ∧ parseU6 false b = .ok ys ∧ parseU6 false (a ++ b) = .ok (xs ++ ys) :=
  many_concat _ _ (stepU6_length false) encU6Route xs ys a b ha hb
    (fun x h => u6_route x (hx x h)) (fun y h => u6_route y (hy y h))
    (u6_noStop xs [] hx hsx) (u6_noStop ys [] hy hsy) (u6_noStop xs b hx hsxy)

theorem u6_list (rs : List U6Route) (hok : ∀ r ∈ rs, U6Ok r) (hs : U6Safe rs []) :
    ∃ w, constructU6 rs = some w ∧ (w = [] → rs = []) ∧ parseU6 false w = .ok rs :=
  many_list _ _ (stepU6_length false) encU6Route rs (fun r hr => u6_route r (hok r hr)) (u6_noStop rs [] hok hs)

theorem lu_list (af : AF) (rs : List LuRoute) (hok : ∀ r ∈ rs, LuOk af r) :
    ∃ w, constructLu af rs = some w ∧ (w = [] → rs = []) ∧ parseLu af false w = .ok rs :=
  many_list _ _ (stepLu_length af false) (encLuRoute af) rs (fun r hr => lu_route af r (hok r hr))
    (noStop_const_false _ rs [])

theorem vpn_list (af : AF) (wd : Bool) (rs : List VpnRoute) (hok : ∀ r ∈ rs, VpnOk af wd r) :
    ∃ w, constructVpn af wd rs = some w ∧ (w = [] → rs = []) ∧ parseVpn af wd false w = .ok rs :=
  many_list _ _ (stepVpn_length af wd false) (encVpnRoute af wd) rs (fun r hr => vpn_route af wd r (hok r hr))
    (noStop_const_false _ rs [])

/-- IPv6Unicast.parse(IPv6Unicast.construct(rs)) = rs -/
theorem C07_ipv6_unicast_nlri (rs : List U6Route) (w : Bytes) (hok : ∀ r ∈ rs, U6Ok r) (hs : U6Safe rs [])
    (hw : constructU6 rs = some w) : parseU6 false w = .ok rs :=
  many_enc_all _ _ (stepU6_length false) encU6Route rs w hw (fun x hx => (u6_route x (hok x hx)).spec)
    (u6_noStop rs [] hok hs)

/-- LabeledUnicast.parse(LabeledUnicast.construct(rs)) = rs for both address families -/
theorem C07_labeled_nlri (af : AF) (rs : List LuRoute) (w : Bytes) (hok : ∀ r ∈ rs, LuOk af r)
    (hw : constructLu af rs = some w) : parseLu af false w = .ok rs :=
  many_enc_all _ _ (stepLu_length af false) (encLuRoute af) rs w hw (fun x hx => (lu_route af x (hok x hx)).spec)
    (noStop_const_false _ rs [])

/-- MPLSVPN.parse(MPLSVPN.construct(rs, iswithdraw), iswithdraw) = rs for both address families -/
theorem C07_vpn_nlri (af : AF) (wd : Bool) (rs : List VpnRoute) (w : Bytes) (hok : ∀ r ∈ rs, VpnOk af wd r)
    (hw : constructVpn af wd rs = some w) : parseVpn af wd false w = .ok rs :=
  many_enc_all _ _ (stepVpn_length af wd false) (encVpnRoute af wd) rs w hw
    (fun x hx => (vpn_route af wd x (hok x hx)).spec) (noStop_const_false _ rs [])

/-- with nothing following, the excluded class is exactly: the list ends with two default routes -/
theorem U6Safe_nil_iff (rs : List U6Route) :
    U6Safe rs [] ↔ ¬ ∃ pre a b, rs = pre ++ [a, b] ∧ a.pfx.len = 0 ∧ b.pfx.len = 0 := by
  induction rs with
  | nil =>
    simp only [U6Safe, true_iff]
    rintro ⟨pre, a, b, h, _⟩
    have := congrArg List.length h
    simp at this
  | cons x xs ih =>
    simp only [U6Safe]
    rw [ih, oneMoreDefault_nil_iff]
    constructor
    · rintro ⟨h1, h2⟩ ⟨pre, a, b, h, ha, hb⟩
      cases pre with
      | nil =>
        simp only [List.nil_append, List.cons.injEq] at h
        obtain ⟨rfl, rfl⟩ := h
        exact h1 ⟨ha, Or.inr ⟨b, rfl, hb⟩⟩
      | cons p ps =>
        simp only [List.cons_append, List.cons.injEq] at h
        exact h2 ⟨ps, a, b, h.2, ha, hb⟩
    · intro h
      refine ⟨?_, ?_⟩
      · rintro ⟨hx, hh⟩
        rcases hh with ⟨_, h0⟩ | ⟨y, rfl, hy⟩
        · simp at h0
        · exact h ⟨[], x, y, rfl, hx, hy⟩
      · rintro ⟨pre, a, b, hh, ha, hb⟩
        exact h ⟨x :: pre, a, b, by simp [hh], ha, hb⟩

/-- in-range MP_REACH_NLRI dictionaries of the five families -/
def ReachOk : MpReachVal → Prop
  /- IPv6 unicast: global next hop, with or without a link-local one; every prefix length 0..128; 0..n routes -/
  | .ipv6Unicast nh ll rs =>
    IsV6 nh ∧ (match ll with | some l => IsV6 l | none => True) ∧ (∀ r ∈ rs, U6Ok r) ∧ U6Safe rs []
  /- labeled unicast: a next hop of either family; 1..n routes (the constructor returns None for none) -/
  | .labeled af nh rs =>
    (match nh with | some a => IpOk a | none => False) ∧ rs ≠ [] ∧ ∀ r ∈ rs, LuOk af r
  /- VPN: next hop {'rd': 'asn:an', 'str': address of either family}; 0..n routes -/
  | .vpn af rd nh rs => NhRdOk rd ∧ IpOk nh ∧ ∀ r ∈ rs, VpnOk af false r
  | .other _ _ => False

/-- in-range MP_UNREACH_NLRI dictionaries: 1..n routes (the constructor returns None for none) -/
def UnreachOk : MpUnreachVal → Prop
  | .ipv6Unicast rs => rs ≠ [] ∧ (∀ r ∈ rs, U6Ok r) ∧ U6Safe rs []
  | .vpn af rs => rs ≠ [] ∧ ∀ r ∈ rs, VpnOk af true r
  | _ => False

instance (v : MpReachVal) : Decidable (ReachOk v) := by
  cases v with
  | ipv6Unicast nh ll rs => unfold ReachOk; cases ll <;> infer_instance
  | labeled af nh rs => unfold ReachOk; cases nh <;> infer_instance
  | vpn af rd nh rs => unfold ReachOk; infer_instance
  | other a s => unfold ReachOk; infer_instance

instance (v : MpUnreachVal) : Decidable (UnreachOk v) := by
  cases v <;> unfold UnreachOk <;> infer_instance

/-- IPv6 unicast, next hop with or without link-local: the constructor wraps an attribute value `body`
    (header 0x90, 14, 2-octet length; it raises only when `body` exceeds 65535 octets) that decodes back to
    exactly the dictionary given -/
theorem C07_ipv6_unicast_reach (nh : Ip) (ll : Option Ip) (rs : List U6Route)
    (h : ReachOk (.ipv6Unicast nh ll rs)) :
    ∃ body, constructMpReach (.ipv6Unicast nh ll rs) = attrWrap 14 body ∧
      parseMpReach false body = .ok (.ipv6Unicast nh ll rs) := by
  obtain ⟨hnh, hll, hrs, hsafe⟩ := h
  obtain ⟨nl, hnl, _, hparse⟩ := u6_list rs hrs hsafe
  obtain ⟨_, hlen⟩ := hnh.ok
  cases ll with
  | none =>
    refine ⟨reachValue 2 safiUnicast 16 nh.packed nl, by simp [constructMpReach, hnl, C.tMpReach], ?_⟩
    have := parseMpReach_value false 2 safiUnicast nh.packed nl (by decide) (by decide) (by omega)
    rw [hlen] at this
    rw [this]
    simp [parseReachBody, afOf, safiUnicast, safiVpn, safiLabel, u6Nexthop_enc nh hnh, hparse]
  | some l =>
    obtain ⟨_, hlenl⟩ := IsV6.ok hll
    refine ⟨reachValue 2 safiUnicast 32 (nh.packed ++ l.packed) nl,
      by simp [constructMpReach, hnl, C.tMpReach], ?_⟩
    have hl32 : (nh.packed ++ l.packed).length = 32 := by rw [List.length_append, hlen, hlenl]
    have := parseMpReach_value false 2 safiUnicast (nh.packed ++ l.packed) nl (by decide) (by decide)
      (by omega)
    rw [hl32] at this
    rw [this]
    simp [parseReachBody, afOf, safiUnicast, safiVpn, safiLabel, u6Nexthop_enc_ll nh l hnh hll, hparse]

/-- IPv4 (`af = .inet`, afi/safi (1,4)) and IPv6 (`af = .inet6`, (2,4)) labeled unicast -/
theorem C07_labeled_reach (af : AF) (nh : Option Ip) (rs : List LuRoute)
    (h : ReachOk (.labeled af nh rs)) :
    ∃ body, constructMpReach (.labeled af nh rs) = attrWrap 14 body ∧
      parseMpReach false body = .ok (.labeled af nh rs) := by
  obtain ⟨hnh, hne, hrs⟩ := h
  cases nh with
  | none => exact absurd hnh id
  | some a =>
    obtain ⟨nl, hnl, hnil, hparse⟩ := lu_list af rs hrs
    have hpl : a.packed.length = 4 ∨ a.packed.length = 16 := by
      rw [packed_length]; cases a <;> simp [Ip.width]
    refine ⟨reachValue af.afi safiLabel a.packed.length a.packed nl,
      by simp [constructMpReach, hnl, mt hnil hne, C.tMpReach], ?_⟩
    rw [parseMpReach_value false af.afi safiLabel a.packed nl (afi_lt af) (by decide) (by omega)]
    have hnhb : luNexthop a.packed = .ok (some a) := by
      have hne' : a.packed ≠ [] := fun hh => by rw [hh] at hpl; simp at hpl
      simp [luNexthop, hne', nhAddr_packed a hnh]
    simp [parseReachBody, afOf_afi, safiVpn, safiLabel, hnhb, hparse]

/-- VPNv4 (`af = .inet`, (1,128)) and VPNv6 (`af = .inet6`, (2,128)) -/
theorem C07_vpn_reach (af : AF) (rd : Rd) (nh : Ip) (rs : List VpnRoute)
    (h : ReachOk (.vpn af rd nh rs)) :
    ∃ body, constructMpReach (.vpn af rd nh rs) = attrWrap 14 body ∧
      parseMpReach false body = .ok (.vpn af rd nh rs) := by
  obtain ⟨hrd, hnh, hrs⟩ := h
  obtain ⟨nl, hnl, _, hparse⟩ := vpn_list af false rs hrs
  obtain ⟨nhb, hnhb, hnhl, hnhp⟩ := vpnNexthop_enc rd nh hrd hnh
  refine ⟨reachValue af.afi safiVpn nhb.length nhb nl, by simp [constructMpReach, hnl, hnhb, C.tMpReach], ?_⟩
  rw [parseMpReach_value false af.afi safiVpn nhb nl (afi_lt af) (by decide) hnhl]
  simp [parseReachBody, afOf_afi, safiVpn, hnhp, hparse]

theorem C07_reach_roundtrip (v : MpReachVal) (h : ReachOk v) :
    ∃ body, constructMpReach v = attrWrap 14 body ∧ parseMpReach false body = .ok v := by
  cases v with
  | ipv6Unicast nh ll rs => exact C07_ipv6_unicast_reach nh ll rs h
  | labeled af nh rs => exact C07_labeled_reach af nh rs h
  | vpn af rd nh rs => exact C07_vpn_reach af rd nh rs h
  | other a s => exact absurd h (by simp [ReachOk])

theorem C07_ipv6_unicast_unreach (rs : List U6Route) (h : UnreachOk (.ipv6Unicast rs)) :
    ∃ body, constructMpUnreach (.ipv6Unicast rs) = attrWrap 15 body ∧
      parseMpUnreach false body = .ok (.ipv6Unicast rs) := by
  obtain ⟨hne, hrs, hsafe⟩ := h
  obtain ⟨nl, hnl, hnil, hparse⟩ := u6_list rs hrs hsafe
  refine ⟨unreachValue 2 safiUnicast nl, by simp [constructMpUnreach, hnl, mt hnil hne, C.tMpUnreach], ?_⟩
  rw [parseMpUnreach_value false 2 safiUnicast nl (by decide) (by decide)]
  simp [parseUnreachBody, afOf, safiUnicast, safiVpn, safiLabel, hparse]

theorem C07_vpn_unreach (af : AF) (rs : List VpnRoute) (h : UnreachOk (.vpn af rs)) :
    ∃ body, constructMpUnreach (.vpn af rs) = attrWrap 15 body ∧
      parseMpUnreach false body = .ok (.vpn af rs) := by
  obtain ⟨hne, hrs⟩ := h
  obtain ⟨nl, hnl, hnil, hparse⟩ := vpn_list af true rs hrs
  refine ⟨unreachValue af.afi safiVpn nl, by simp [constructMpUnreach, hnl, mt hnil hne, C.tMpUnreach], ?_⟩
  rw [parseMpUnreach_value false af.afi safiVpn nl (afi_lt af) (by decide)]
  simp [parseUnreachBody, afOf_afi, safiVpn, hparse]

theorem C07_unreach_roundtrip (v : MpUnreachVal) (h : UnreachOk v) :
    ∃ body, constructMpUnreach v = attrWrap 15 body ∧ parseMpUnreach false body = .ok v := by
  cases v with
  | ipv6Unicast rs => exact C07_ipv6_unicast_unreach rs h
  | vpn af rs => exact C07_vpn_unreach af rs h
  | labeled af rs => exact absurd h (by simp [UnreachOk])
  | labeledRaw af b => exact absurd h (by simp [UnreachOk])
  | other a s => exact absurd h (by simp [UnreachOk])

/-- the header: flags 0x90, type code, true 2-octet length; nothing else can make the constructor raise -/
theorem C07_wrapper_header (code : Nat) (body : Bytes) :
    (body.length < 65536 → attrWrap code body = .ok ([0x90, u8 code] ++ be16 body.length ++ body)) ∧
    (¬ body.length < 65536 → attrWrap code body = .raise) := by
  constructor <;> intro h <;> simp [attrWrap, h]

/-- which wire type a route distinguisher text gets: `asn:an` is type 0 up to asn 65535 and type 2 above,
    `a.b.c.d:an` is type 1; each decodes back to the same text -/
theorem C07_rd_types (rd : Rd) (h : RdOk rd) :
    ∃ w, constructRd rd = some w ∧ parseRd w = some rd ∧
      w.take 2 = be16 (match rd with
                       | .asForm asn _ => if asn ≤ 65535 then 0 else 2
                       | .ipForm _ _ => 1
                       | .raw _ => 0) := by
  obtain ⟨w, hw, _, hp, ht⟩ := parseRd_enc rd h
  refine ⟨w, hw, hp, ?_⟩
  cases rd <;> exact ht

/-- the decoder's `b'\x00\x00'` special case -/
theorem parseU6_two_zeros : parseU6 false [0, 0] = .ok [] := by
  unfold parseU6
  rw [many_cons]
  simp [stopU6]

/-- IPv6 unicast: two default routes are constructed as 00 00 and decode to nothing -/
theorem KF_C07_ipv6_two_default_routes :
    constructMpUnreach (.ipv6Unicast [{ pfx := { addr := .v6 0, len := 0 } }, { pfx := { addr := .v6 0, len := 0 } }])
      = attrWrap 15 [0, 2, 1, 0, 0] ∧
    parseMpUnreach false [0, 2, 1, 0, 0] = .ok (.ipv6Unicast []) ∧
    ¬ U6Safe [{ pfx := { addr := .v6 0, len := 0 } }, { pfx := { addr := .v6 0, len := 0 } }] [] := by
  refine ⟨by decide, ?_, by decide⟩
  simp [parseMpUnreach, parseUnreachBody, afOf, safiVpn, safiLabel, safiUnicast, parseU6_two_zeros]

/-- labeled unicast: label [0] in front of 10.1.1.0/24 is constructed as 30 000000 0a0101 and decodes to
    labels [0, 40976] and the prefix 0.0.0.0/0 -/
theorem KF_C07_labeled_last_label_zero :
    constructLu .inet [{ labels := [0], pfx := { addr := .v4 167837952, len := 24 } }]
      = some [0x30, 0, 0, 0, 0x0a, 1, 1] ∧
    parseLu .inet false [0x30, 0, 0, 0, 0x0a, 1, 1]
      = .ok [{ labels := [0, 40976], pfx := { addr := .v4 0, len := 0 } }] ∧
    ¬ LuOk .inet { labels := [0], pfx := { addr := .v4 167837952, len := 24 } } := by
  refine ⟨by decide, ?_, by decide⟩
  unfold parseLu
  rw [many_cons]
  have hstep : stepLu .inet false [0x30, 0, 0, 0, 0x0a, 1, 1]
      = .ok ({ labels := [0, 40976], pfx := { addr := .v4 0, len := 0 } }, []) := by
    simp [stepLu, parseLuOne, parseLabels, luAddr, ceil8, intOfBytes, zeros, beVal, ipOfInt, p32]
  simp [hstep, Except.bind, Except.map, many_nil]

/-- labeled unicast withdrawals: whatever NLRI octets follow (af, 4) come back undecoded -/
theorem KF_C07_labeled_unreach_not_decoded (af : AF) (addpath : Bool) (nlri : Bytes) :
    parseMpUnreach addpath (unreachValue af.afi safiLabel nlri) = .ok (.labeledRaw af nlri) := by
  rw [parseMpUnreach_value addpath af.afi safiLabel nlri (afi_lt af) (by decide)]
  simp [parseUnreachBody, afOf_afi, safiVpn, safiLabel]

/-- ... while the constructor encodes them for IPv4 and returns None for IPv6 -/
theorem KF_C07_labeled_unreach_constructed :
    constructMpUnreach (.labeled .inet [{ labels := [16], pfx := { addr := .v4 167772160, len := 8 } }])
      = attrWrap 15 (unreachValue 1 safiLabel [0x20, 0x80, 0, 0, 0x0a]) ∧
    ∀ rs, constructMpUnreach (.labeled .inet6 rs) = .none := by
  exact ⟨by decide, fun _ => rfl⟩

/-- the statement of the property text for IPv6 prefix lists, without the exclusion -/
def C07_ipv6_unicast_full : Prop :=
  ∀ (rs : List U6Route) (w : Bytes), (∀ r ∈ rs, U6Ok r) → constructU6 rs = some w → parseU6 false w = .ok rs

theorem KF_C07_ipv6_unicast_full_false : ¬ C07_ipv6_unicast_full := by
  intro h
  have h1 := h [{ pfx := { addr := .v6 0, len := 0 } }, { pfx := { addr := .v6 0, len := 0 } }] [0, 0]
    (by decide) (by decide)
  rw [parseU6_two_zeros] at h1
  cases h1

/-- labeled-unicast routes of the property text, without the exclusion of a last label 0 -/
def LuSpace (af : AF) (r : LuRoute) : Prop :=
  r.pathId = none ∧ r.labels ≠ [] ∧ (∀ l ∈ r.labels, LabelOk l) ∧
  PfxOk af r.pfx ∧ 24 * (r.labels.length : Int) + r.pfx.len ≤ 255

def C07_labeled_full : Prop :=
  ∀ (af : AF) (rs : List LuRoute) (w : Bytes), (∀ r ∈ rs, LuSpace af r) → constructLu af rs = some w →
    parseLu af false w = .ok rs

theorem KF_C07_labeled_full_false : ¬ C07_labeled_full := by
  intro h
  have h1 := h .inet [{ labels := [0], pfx := { addr := .v4 167837952, len := 24 } }]
    [0x30, 0, 0, 0, 0x0a, 1, 1] (by unfold LuSpace; decide) KF_C07_labeled_last_label_zero.1
  rw [KF_C07_labeled_last_label_zero.2.1] at h1
  simp at h1

/-- the exclusion is exactly the last-label-0 class: every route of the value space with another last label
    is covered by the theorems -/
theorem LuOk_iff_space (af : AF) (r : LuRoute) : LuOk af r ↔ LuSpace af r ∧ r.labels.getLast? ≠ some 0 := by
  unfold LuOk LuSpace
  constructor
  · rintro ⟨a, b, c, d, e, f⟩; exact ⟨⟨a, b, c, e, f⟩, d⟩
  · rintro ⟨⟨a, b, c, e, f⟩, d⟩; exact ⟨a, b, c, d, e, f⟩

/-! ### non-vacuity -/

/-- IPv6 unicast with link-local next hop; ::/0, a /33, a /127 with a host bit inside the last octet, ::1/128 -/
example : ReachOk (.ipv6Unicast (.v6 42540766411282592856903984951653826561)
    (some (.v6 338288524927261089654018896841347694593))
    [{ pfx := { addr := .v6 0, len := 0 } },
     { pfx := { addr := .v6 42540766411282592856903984951653826560, len := 33 } },
     { pfx := { addr := .v6 42540766411282592856903984951653826562, len := 127 } },
     { pfx := { addr := .v6 1, len := 128 } }]) := by decide

/-- labeled IPv4: labels {1048575, 3}, /0 and /32; labeled IPv6 /63 -/
example : ReachOk (.labeled .inet (some (.v4 16909060))
    [{ labels := [1048575, 3], pfx := { addr := .v4 0, len := 0 } },
     { labels := [16], pfx := { addr := .v4 167837953, len := 32 } }]) := by decide

example : ReachOk (.labeled .inet6 (some (.v6 1))
    [{ labels := [15], pfx := { addr := .v6 42540766411282592856903984951653826560, len := 63 } }]) := by decide

/-- VPNv4 default route with label 0 and a type-1 RD; two labels with a type-2 RD; VPNv6 /60 with the largest
    type-0 RD and the largest label -/
example : ReachOk (.vpn .inet (.asForm 0 0) (.v4 16909060)
    [{ labels := [0], rd := .ipForm 4294967295 65535, pfx := { addr := .v4 0, len := 0 } },
     { labels := [16, 17], rd := .asForm 65536 65535, pfx := { addr := .v4 167837696, len := 16 } }]) := by decide

example : ReachOk (.vpn .inet6 (.asForm 65535 4294967295) (.v6 281470698652420)
    [{ labels := [1048575], rd := .asForm 65535 4294967295,
       pfx := { addr := .v6 42540766411282592856903984951653826560, len := 60 } }]) := by decide

example : UnreachOk (.vpn .inet [{ labels := [524288], rd := .asForm 100 100,
                                   pfx := { addr := .v4 167772160, len := 8 } }]) := by decide

example : UnreachOk (.ipv6Unicast [{ pfx := { addr := .v6 0, len := 0 } },
                                   { pfx := { addr := .v6 42540766411282592856903984951653826560, len := 32 } }]) := by
  decide

/-- and the round trip theorem applies to them: e.g. the VPNv4 value above has a body that decodes back -/
example : ∃ body, parseMpReach false body = .ok (.vpn .inet (.asForm 0 0) (.v4 16909060)
    [{ labels := [0], rd := .ipForm 4294967295 65535, pfx := { addr := .v4 0, len := 0 } }]) :=
  (C07_reach_roundtrip _ (by decide)).elim fun body h => ⟨body, h.2⟩

end Yabgp.Mp

#print axioms Yabgp.Mp.C07_generated_constants
#print axioms Yabgp.Mp.C07_ipv6_unicast_reach
#print axioms Yabgp.Mp.C07_labeled_reach
#print axioms Yabgp.Mp.C07_vpn_reach
#print axioms Yabgp.Mp.C07_reach_roundtrip
#print axioms Yabgp.Mp.C07_ipv6_unicast_unreach
#print axioms Yabgp.Mp.C07_vpn_unreach
#print axioms Yabgp.Mp.C07_unreach_roundtrip
#print axioms Yabgp.Mp.C07_wrapper_header
#print axioms Yabgp.Mp.C07_rd_types
#print axioms Yabgp.Mp.C15_ipv6_prefixes
#print axioms Yabgp.Mp.U6Safe_nil_iff
#print axioms Yabgp.Mp.C15_labeled
#print axioms Yabgp.Mp.C15_vpn
#print axioms Yabgp.Mp.C15_ipv6_prefixes_concat
#print axioms Yabgp.Mp.C15_labeled_concat
#print axioms Yabgp.Mp.C15_vpn_concat
#print axioms Yabgp.Mp.KF_C07_ipv6_two_default_routes
#print axioms Yabgp.Mp.KF_C07_labeled_last_label_zero
#print axioms Yabgp.Mp.KF_C07_labeled_unreach_not_decoded
#print axioms Yabgp.Mp.C07_ipv6_unicast_nlri
#print axioms Yabgp.Mp.C07_labeled_nlri
#print axioms Yabgp.Mp.C07_vpn_nlri
#print axioms Yabgp.Mp.KF_C07_ipv6_unicast_full_false
#print axioms Yabgp.Mp.KF_C07_labeled_full_false
#print axioms Yabgp.Mp.LuOk_iff_space
#print axioms Yabgp.Mp.KF_C07_labeled_unreach_constructed
