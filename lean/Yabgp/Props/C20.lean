/-
  C20 — the on-disk message log stays well-formed and gap-free across rotation, restart and crash.
  The lemmas behind the property theorems are in Yabgp/Lemmas/MsgLogLemmas.lean.

  Model: Yabgp/Model/MsgLog.lean (default_handler.py as repaired by "fix: recover the message log after a crash
  ..."), specification: the audit of Yabgp/Spec/LogSpec.lean, read from the model's directory through
  Model/MsgLogView.lean.  All statements are for EVERY rotation threshold and EVERY list of operations
  (clock ticks, events of any type and size, size checks, crashes at any byte offset of a write, restarts, in
  any order, starting from the empty directory).
  The `KF_` theorems show on shortest histories that the start-up code of the pinned tree (restartOrig)
  violates the property in the three ways the repair addresses.
-/
import Yabgp.Lemmas.MsgLogLemmas

namespace Yabgp
open MsgLog

/-- The invariant behind C20 holds after every history: files in name order, every line a record, numbers
    1, 2, 3, ... across the files, unterminated bytes only at the end of the newest file and only while no
    handler runs, the running handler's next number = number of lines + 1 and its file is the newest. -/
theorem C20_invariant (maxSize : Nat) (ops : List Op) : SInv (run maxSize MsgLog.empty ops) :=
  sinv_run maxSize ops MsgLog.empty sinv_empty

/-- The audit holds after every history: reading the files in the order of their names, every line is one
    complete record, the sequence numbers are 1, 2, 3, ... with no gap and no repetition across rotations,
    restarts and crashes, and bytes without a newline exist only as the fragment a crash left at the end of
    the newest file while no handler is running. -/
theorem C20_gapfree (maxSize : Nat) (ops : List Op) :
    LogSpec.audit (view (run maxSize MsgLog.empty ops).fs) (run maxSize MsgLog.empty ops).h.isSome = true :=
  audit_of_sinv (C20_invariant maxSize ops)

/-- A start never refuses because of the handler's own log: after every history (ending in a crash at any
    offset or not) a start succeeds, and the directory it leaves passes the audit for a running handler. -/
theorem C20_restart_total (maxSize : Nat) (ops : List Op) :
    (step maxSize (run maxSize MsgLog.empty ops) .restart).refused = false ∧
    (step maxSize (run maxSize MsgLog.empty ops) .restart).h.isSome = true ∧
    LogSpec.audit (view (step maxSize (run maxSize MsgLog.empty ops) .restart).fs) true = true := by
  obtain ⟨h1, _, h3, h4⟩ := restart_spec _ (C20_invariant maxSize ops)
  have := audit_of_sinv h1
  rw [auditWorld, h3] at this
  exact ⟨h4, h3, this⟩

/-- Recovery neither reuses nor skips a number: after a start the handler's next number is the number of
    complete records on the disk plus one, it appends to the newest file, and no file ends in bytes
    without a newline (so the next record is on a line of its own). -/
theorem C20_recovery_next_number (maxSize : Nat) (ops : List Op) (h : Handler)
    (hh : (step maxSize (run maxSize MsgLog.empty ops) .restart).h = some h) :
    h.seq = (allLines (run maxSize MsgLog.empty ops).fs).length + 1 ∧
    (∀ f ∈ (step maxSize (run maxSize MsgLog.empty ops) .restart).fs, f.tail = none) ∧
    (step maxSize (run maxSize MsgLog.empty ops) .restart).fs.getLast?.map (·.name) = some h.cur ∧
    allLines (step maxSize (run maxSize MsgLog.empty ops) .restart).fs = allLines (run maxSize MsgLog.empty ops).fs := by
  obtain ⟨h1, h2, _, _⟩ := restart_spec _ (C20_invariant maxSize ops)
  have hr := h1.run h hh
  exact ⟨h2 ▸ hr.2.1, hr.1, hr.2.2, h2⟩

/-- Every reported event appends exactly one line, a complete record carrying the next number, and nothing
    else changes in the log: in any reachable state with a running handler. -/
theorem C20_event_one_line (maxSize : Nat) (ops : List Op) (ty plen : Nat) (h : Handler)
    (hh : (run maxSize MsgLog.empty ops).h = some h) :
    allLines (step maxSize (run maxSize MsgLog.empty ops) (.event ty plen)).fs
      = allLines (run maxSize MsgLog.empty ops).fs ++
          [.record { seq := (allLines (run maxSize MsgLog.empty ops).fs).length + 1, ty := ty,
                     len := plen + digits ((allLines (run maxSize MsgLog.empty ops).fs).length + 1) }] := by
  have := (step_spec maxSize _ (.event ty plen) (C20_invariant maxSize ops)).2.1
  rw [this, hh]
  rfl

/-- the log a history must leave behind, computed from the history alone: one record per event reported while
    a handler runs (and per write that a crash let through completely), numbered consecutively; nothing for
    ticks, size checks, restarts, torn writes, or events while no handler runs -/
def reported : Bool → Nat → List Op → List Line
  | _, _, [] => []
  | alive, n, op :: ops => emit alive n op ++ reported (aliveAfter alive op) (n + (emit alive n op).length) ops

theorem reported_from (maxSize : Nat) : ∀ (ops : List Op) (w : World), SInv w →
    allLines (run maxSize w ops).fs = allLines w.fs ++ reported w.h.isSome (allLines w.fs).length ops := by
  intro ops
  induction ops with
  | nil => intro w _; simp [run, reported]
  | cons op r ih =>
    intro w hw
    obtain ⟨h1, h2, h3⟩ := step_spec maxSize w op hw
    simp only [run, reported]
    rw [ih _ h1, h2, h3, List.length_append, List.append_assoc]

/-- The log is exactly the reported history: after every history the lines on disk, read across all files in
    name order, are precisely the records of the events that were reported, in order - no line is lost by a
    rotation or a recovery, none is duplicated, nothing else is ever written. -/
theorem C20_log_is_history (maxSize : Nat) (ops : List Op) :
    allLines (run maxSize MsgLog.empty ops).fs = reported false 0 ops := by
  have := reported_from maxSize ops MsgLog.empty sinv_empty
  simpa [MsgLog.empty, allLines] using this

/-! ### non-vacuity -/

/-- a history with two rotations, a torn write, a recovery and further events: three files, five records,
    the torn fragment gone, the handler continues with 6 -/
example :
    run 100 MsgLog.empty
      [.restart, .event 1 70, .tick 1, .event 2 70, .rotateCheck, .tick 1, .event 2 70, .event 2 70, .rotateCheck,
       .crash 2 70 17, .restart, .event 3 40, .rotateCheck]
    = { fs := [{ name := 0, lines := [.record ⟨1, 1, 71⟩, .record ⟨2, 2, 71⟩], tail := none },
               { name := 1, lines := [.record ⟨3, 2, 71⟩, .record ⟨4, 2, 71⟩], tail := none },
               { name := 2, lines := [.record ⟨5, 3, 41⟩], tail := none }],
        clock := 2, h := some { seq := 6, cur := 2 }, refused := false } := by decide

/-- before the restart the torn fragment is on the disk (17 bytes after the last newline of the newest file) -/
example :
    (run 100 MsgLog.empty
      [.restart, .event 1 70, .tick 1, .event 2 70, .rotateCheck, .tick 1, .event 2 70, .event 2 70, .rotateCheck,
       .crash 2 70 17]).fs.map (fun f => (f.name, tailBytes f.tail))
    = [(0, 0), (1, 0), (2, 17)] := by decide

/-- the audit is not trivially true: it rejects a repeated number, a gap, a broken line, a torn fragment under a
    running handler and a torn fragment in an older file -/
example : LogSpec.audit [⟨0, [.record 1, .record 2], 0⟩, ⟨1, [.record 1], 0⟩] true = false := by decide
example : LogSpec.audit [⟨0, [.record 1, .record 3], 0⟩] true = false := by decide
example : LogSpec.audit [⟨0, [.record 1, .broken], 0⟩] false = false := by decide
example : LogSpec.audit [⟨0, [.record 1], 4⟩] true = false := by decide
example : LogSpec.audit [⟨0, [.record 1], 4⟩, ⟨1, [], 0⟩] false = false := by decide
example : LogSpec.audit [⟨1, [.record 3], 0⟩, ⟨0, [.record 1, .record 2], 0⟩] true = true := by decide

/-- the model's start-up CAN refuse (sys.exit): on a directory the handler did not write -/
example : (restart { fs := [{ name := 0, lines := [.junk 10], tail := none }], clock := 5, h := none, refused := false }).refused
    = true := by decide

/-! ### the start-up code of the pinned tree violates the property (known findings, repaired by the fix) -/

/-- a crash in the middle of a write (5 bytes of the record arrived): the pinned start-up ends in sys.exit() -/
theorem KF_C20_orig_torn_tail_refuses :
    (runOrig 1000 MsgLog.empty [.restart, .crash 2 60 5, .restart]).refused = true ∧
    (run 1000 MsgLog.empty [.restart, .crash 2 60 5, .restart]).refused = false := by decide

/-- a restart right after a rotation (the newest file is empty): the pinned start-up begins again at 1 -/
theorem KF_C20_orig_empty_newest_reuses :
    auditWorld (runOrig 1 MsgLog.empty [.restart, .tick 1, .event 2 60, .rotateCheck, .restart, .event 2 60]) = false ∧
    allLines (runOrig 1 MsgLog.empty [.restart, .tick 1, .event 2 60, .rotateCheck, .restart, .event 2 60]).fs
      = [.record ⟨1, 2, 61⟩, .record ⟨1, 2, 61⟩] ∧
    allLines (run 1 MsgLog.empty [.restart, .tick 1, .event 2 60, .rotateCheck, .restart, .event 2 60]).fs
      = [.record ⟨1, 2, 61⟩, .record ⟨2, 2, 61⟩] := by decide

/-- the whole JSON text arrived but its newline did not: the pinned start-up accepts it and the next record
    lands on the same line -/
theorem KF_C20_orig_missing_newline_joins :
    auditWorld (runOrig 1000 MsgLog.empty [.restart, .crash 2 60 61, .restart, .event 2 60]) = false ∧
    allLines (runOrig 1000 MsgLog.empty [.restart, .crash 2 60 61, .restart, .event 2 60]).fs = [.junk 122] ∧
    allLines (run 1000 MsgLog.empty [.restart, .crash 2 60 61, .restart, .event 2 60]).fs = [.record ⟨1, 2, 61⟩] := by
  decide

end Yabgp

#print axioms Yabgp.C20_invariant
#print axioms Yabgp.C20_gapfree
#print axioms Yabgp.C20_restart_total
#print axioms Yabgp.C20_recovery_next_number
#print axioms Yabgp.C20_event_one_line
#print axioms Yabgp.C20_log_is_history
#print axioms Yabgp.KF_C20_orig_torn_tail_refuses
#print axioms Yabgp.KF_C20_orig_empty_newest_reuses
#print axioms Yabgp.KF_C20_orig_missing_newline_joins
