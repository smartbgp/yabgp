/-
  C04 — byte-stream framing is independent of TCP segmentation and always terminates.
  Stated for the connection the state machine tracks (single-connection regime, see C12).
-/
import Yabgp.Lemmas.Norm
import Yabgp.Lemmas.StLemmas
import Yabgp.Spec.RfcFrame

namespace Yabgp
open Sess

variable (U : Bool → Bytes → UpdClass)

/-- Termination: the loop `while parse_buffer(): pass` never needs more iterations than
    `len(buffer) / 19 + 1` — giving it any larger iteration budget changes nothing, i.e. with the budget
    `dataReceived` supplies the loop always ends because parse_buffer returned False. -/
theorem C04_terminates (s : Sess) (i : Nat) (buf : Bytes) (f : Nat) (h : buf.length / 19 < f) :
    drain U f s i buf = drain U (buf.length / 19 + 1) s i buf :=
  drain_fuel U i f _ s buf h (by omega)

/-- every iteration that continues has consumed a whole frame of at least 19 octets -/
theorem C04_progress (s : Sess) (i : Nat) (buf rest : Bytes)
    (h : (parseBuffer U s i buf).2 = some rest) : rest.length + 19 ≤ buf.length :=
  parseBuffer_some h

/-- delivery of one TCP segment to connection `i` when its receive buffer holds `buf`: Twisted delivers
    data only while we have not closed the connection -/
def feed (x : Sess × Bytes) (i : Nat) (d : Bytes) : Sess × Bytes :=
  if (x.1.conn i).disconnected then x else dataReceived U x.1 i x.2 d

/-- Segmentation independence, two segments: the messages dispatched, the reactions (every output, in
    order) and the resulting session state are the same whether `a ++ b` arrives in one segment or in two;
    only the bytes left in the buffer of a connection we have closed may differ (they are never read). -/
theorem C04_two_segments (s : Sess) (i : Nat) (buf a b : Bytes) (ht : Tracked s i)
    (hd : (s.conn i).disconnected = false) :
    (feed U (feed U (s, buf) i a) i b).1 = (feed U (s, buf) i (a ++ b)).1 ∧
    (((feed U (s, buf) i (a ++ b)).1.conn i).disconnected = false →
      (feed U (feed U (s, buf) i a) i b).2 = (feed U (s, buf) i (a ++ b)).2) := by
  have hfeed : ∀ d, feed U (s, buf) i d = dataReceived U s i buf d := by
    intro d; simp [feed, hd]
  rw [hfeed a, hfeed (a ++ b)]
  unfold dataReceived
  have happ := drain_append_fuel U i b ((buf ++ a).length / 19 + 1) s (buf ++ a)
    ((buf ++ (a ++ b)).length / 19 + 1) ((buf ++ (a ++ b)).length / 19 + 1)
    ht (by omega) (by simp [List.append_assoc]) (by simp [List.append_assoc])
  rw [List.append_assoc] at happ
  rw [happ]
  generalize hS : drain U ((buf ++ a).length / 19 + 1) s i (buf ++ a) = S
  unfold feed
  by_cases hdisc : (S.1.conn i).disconnected = true
  · rw [if_pos hdisc, drain_disc_noop U S.1 i _ _ hdisc]
    exact ⟨rfl, fun h => by simp [hdisc] at h⟩
  · rw [if_neg hdisc]
    unfold dataReceived
    have hlen : (S.2 ++ b).length ≤ (buf ++ (a ++ b)).length := by
      have : S.2.length ≤ (buf ++ a).length := by
        rw [← hS]; exact drain_snd_le U i _ _ _
      simp at this ⊢; omega
    have := drain_fuel U i ((S.2 ++ b).length / 19 + 1) ((buf ++ (a ++ b)).length / 19 + 1)
      S.1 (S.2 ++ b) (by omega) (by
        have : (S.2 ++ b).length / 19 ≤ (buf ++ (a ++ b)).length / 19 := Nat.div_le_div_right hlen
        omega)
    rw [this]
    exact ⟨rfl, fun _ => rfl⟩

theorem feed_disc (x : Sess × Bytes) (i : Nat) (d : Bytes) (h : (x.1.conn i).disconnected = true) :
    feed U x i d = x := by
  simp [feed, h]

theorem feedAll_disc (x : Sess × Bytes) (i : Nat) (cs : List Bytes) (h : (x.1.conn i).disconnected = true) :
    cs.foldl (fun y d => feed U y i d) x = x := by
  induction cs with
  | nil => rfl
  | cons c r ih => simp only [List.foldl_cons, feed_disc U x i c h]; exact ih

theorem feed_tracked (s : Sess) (buf : Bytes) (i : Nat) (d : Bytes) (ht : Tracked s i) :
    Tracked (feed U (s, buf) i d).1 i := by
  unfold feed
  split
  · exact ht
  · exact ht.of_frm (drain_frm U i _ s _)

/-- Segmentation independence for an arbitrary cutting of the stream into TCP segments (every 1-cut,
    2-cut, byte-at-a-time, ... is an instance): same dispatched messages, same outputs in the same order,
    same final session state as delivering the concatenation at once. -/
theorem C04_segmentation (i : Nat) (chunks : List Bytes) (hne : chunks ≠ []) :
    ∀ (s : Sess) (buf : Bytes), Tracked s i → (s.conn i).disconnected = false →
      (chunks.foldl (fun y d => feed U y i d) (s, buf)).1 = (feed U (s, buf) i chunks.flatten).1 ∧
      (((feed U (s, buf) i chunks.flatten).1.conn i).disconnected = false →
        (chunks.foldl (fun y d => feed U y i d) (s, buf)).2 = (feed U (s, buf) i chunks.flatten).2) := by
  induction chunks with
  | nil => exact absurd rfl hne
  | cons c r ih =>
    intro s buf ht hd
    cases r with
    | nil => simp
    | cons c2 r2 =>
    simp only [List.foldl_cons, List.flatten_cons] at ih ⊢
    obtain ⟨h1, h2⟩ := C04_two_segments U s i buf c (c2 ++ r2.flatten) ht hd
    by_cases hdisc : ((feed U (s, buf) i c).1.conn i).disconnected = true
    · rw [feed_disc U _ i c2 hdisc, feedAll_disc U _ i r2 hdisc]
      rw [feed_disc U _ i _ hdisc] at h1 h2
      refine ⟨h1, fun hnd => ?_⟩
      rw [← h1] at hnd
      simp [hdisc] at hnd
    · have hdisc' : ((feed U (s, buf) i c).1.conn i).disconnected = false := by simpa using hdisc
      have ht' := feed_tracked U s buf i c ht
      obtain ⟨k1, k2⟩ := ih (by simp) (feed U (s, buf) i c).1 (feed U (s, buf) i c).2 ht' hdisc'
      refine ⟨k1.trans h1, fun hnd => ?_⟩
      have hnd' : ((feed U (feed U (s, buf) i c) i (c2 ++ r2.flatten)).1.conn i).disconnected = false := by
        rw [h1]; exact hnd
      exact (k2 hnd').trans (h2 hnd)

section
open Spec

theorem take16_all_iff (b : Bytes) (h : 16 ≤ b.length) : (b.take 16).all (· == 0xff) = true ↔ b.take 16 = marker := by
  constructor
  · intro hall
    apply List.ext_getElem
    · simp [marker]; omega
    · intro i h1 h2
      have hm : marker[i]'h2 = 0xff := by unfold marker; exact List.getElem_replicate ..
      rw [hm]
      have := List.all_eq_true.mp hall ((b.take 16)[i]'h1) (List.getElem_mem h1)
      simpa using this
  · intro he
    rw [he]; decide

/-- **The model deframer is the RFC 4271 deframer**: what `parse_buffer` sees at the head of the receive buffer is,
    for every byte string, exactly what §4.1 / §6.1 of the RFC say - wait, Connection Not Synchronized, Bad Message
    Length (with the erroneous field), or a message of the announced type, body and length. -/
theorem C04_deframer_is_rfc (b : Bytes) :
    headOf b = match firstFrame b with
               | .incomplete => .short
               | .notSynchronized => .badMarker
               | .badLength len => .badLength len
               | .message ty body _ => .frame ty body (frameLen b) := by
  by_cases h19 : b.length < 19
  · simp [headOf, firstFrame, h19, C.hdrLen]
  · have h16 : 16 ≤ b.length := by omega
    by_cases hm : b.take 16 = marker
    · have hall : (b.take 16).all (· == 0xff) = true := (take16_all_iff b h16).mpr hm
      obtain ⟨l1, l2, ty, r, hd⟩ : ∃ l1 l2 ty r, b.drop 16 = l1 :: l2 :: ty :: r := by
        have hl : 3 ≤ (b.drop 16).length := by simp; omega
        match hdd : b.drop 16, hl with
        | l1 :: l2 :: ty :: r, _ => exact ⟨l1, l2, ty, r, rfl⟩
      have gk : ∀ k, b.getD (16 + k) 0 = (b.drop 16).getD k 0 := by
        intro k; simp [List.getD_eq_getElem?_getD]
      have g16 : b.getD 16 0 = l1 := by have := gk 0; rw [hd] at this; simpa using this
      have g17 : b.getD 17 0 = l2 := by have := gk 1; rw [hd] at this; simpa using this
      have g18 : b.getD 18 0 = ty := by have := gk 2; rw [hd] at this; simpa using this
      have hfl : frameLen b = l1.toNat * 256 + l2.toNat := by unfold frameLen; rw [g16, g17]
      have hL : headOf b =
          if frameLen b < 19 ∨ frameLen b > 4096 then .badLength (frameLen b)
          else if b.length < frameLen b then .short
          else .frame ty.toNat ((b.take (frameLen b)).drop 19) (frameLen b) := by
        unfold headOf
        rw [if_neg (by simpa [C.hdrLen] using h19), if_neg (by simp [hm]), g18]
        rfl
      have hR : firstFrame b =
          if frameLen b < 19 ∨ 4096 < frameLen b then .badLength (frameLen b)
          else if b.length < frameLen b then .incomplete
          else .message ty.toNat ((b.take (frameLen b)).drop 19) (b.drop (frameLen b)) := by
        unfold firstFrame
        rw [if_neg h19, if_neg (by simp [hall]), hd, hfl]
      rw [hL, hR]
      by_cases hbad : frameLen b < 19 ∨ frameLen b > 4096
      · rw [if_pos hbad, if_pos hbad]
      · rw [if_neg hbad, if_neg hbad]
        by_cases hs : b.length < frameLen b
        · rw [if_pos hs, if_pos hs]
        · rw [if_neg hs, if_neg hs]
    · have hall : ¬ (b.take 16).all (· == 0xff) = true := fun h => hm ((take16_all_iff b h16).mp h)
      have hL : headOf b = .badMarker := by
        unfold headOf
        rw [if_neg (by simpa [C.hdrLen] using h19), if_pos (by simpa using hm)]
      have hR : firstFrame b = .notSynchronized := by
        unfold firstFrame
        rw [if_neg h19, if_pos hall]
      rw [hL, hR]

end

/-- a framing violation (bad marker: sub-code 1; length < 19 or > 4096: sub-code 2 with the offending
    length; unknown type: sub-code 3) is answered on the tracked connection with exactly one Message Header
    Error NOTIFICATION carrying that sub-code, followed by the close; the state is Idle afterwards -/
theorem C04_framing_violation (s : Sess) (i : Nat) (buf : Bytes) (hp : s.proto = some i)
    (hlt : i < s.conns.length) (hc : (s.conn i).phase = .connected) (hnd : (s.conn i).disconnected = false) :
    (headOf buf = .badMarker →
      (parseBuffer U s i buf).1.outs = s.outs ++ [.write i (notifWire 1 1 []), .lose i] ∧
      (parseBuffer U s i buf).1.st = .idle ∧ (parseBuffer U s i buf).2 = none) ∧
    (∀ len, headOf buf = .badLength len →
      (parseBuffer U s i buf).1.outs = s.outs ++ [.write i (notifWire 1 2 (be16 len)), .lose i] ∧
      (parseBuffer U s i buf).1.st = .idle ∧ (parseBuffer U s i buf).2 = none) ∧
    (∀ ty body len, headOf buf = .frame ty body len → ty < 256 → ty ∉ [1, 2, 3, 4, 5, 128] →
      (parseBuffer U s i buf).1.outs = s.outs ++ [.write i (notifWire 1 3 (be16 ty)), .lose i] ∧
      (parseBuffer U s i buf).1.st = .idle) := by
  have hn : Norm s i := ⟨hp, hlt, hc, hnd⟩
  refine ⟨?_, ?_, ?_⟩
  · intro h
    simp only [parseBuffer, hnd, h]
    exact ⟨outs_notifyClose_norm hn 1 1 [] (by decide) (by decide) (by decide), st_headerError .., rfl⟩
  · intro len h
    simp only [parseBuffer, hnd, h]
    exact ⟨outs_notifyClose_norm hn 1 2 (be16 len) (by decide) (by decide) (by simp), st_headerError .., rfl⟩
  · intro ty body len h hty hn'
    simp only [List.mem_cons, List.not_mem_nil, or_false, not_or] at hn'
    simp only [parseBuffer, hnd, h, dispatch_unknown U s i body hn']
    exact ⟨outs_notifyClose_norm hn 1 3 (be16 ty) (by decide) (by decide) (by simp), st_headerError ..⟩

end Yabgp

#print axioms Yabgp.C04_terminates
#print axioms Yabgp.C04_progress
#print axioms Yabgp.C04_two_segments
#print axioms Yabgp.C04_segmentation
#print axioms Yabgp.C04_framing_violation
#print axioms Yabgp.C04_deframer_is_rfc
