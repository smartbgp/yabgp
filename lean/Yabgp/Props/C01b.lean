/-
  C01, applicability of the per-event theorems: the theorems of Props/C01.lean are stated for "the state machine tracks
  connection `i`, which is up and which we have not closed" (`Norm s i`).  This file shows that this is not an extra
  assumption: in EVERY state reachable after the agent's start in which a session is being set up or is up (OpenSent,
  OpenConfirm, Established) the situation holds for the tracked connection, there is no other open connection, and no
  connection attempt is in flight next to it.  Hence the RFC reactions of Props/C01.lean apply to every reachable
  session state.
-/
import Yabgp.Props.C12

namespace Yabgp
open Sess

variable (U : Bool → Bytes → UpdClass)

theorem C01_reachable_session_is_normal (cfg : Cfg) (e0 : Ev) (he0 : e0 = .boot ∨ e0 = .manualStart) (evs : List Ev)
    (hen : EnabledRun U (step U (bootWorld cfg) e0) evs)
    (hs : InSession (run U (bootWorld cfg) (e0 :: evs)).sess) :
    ∃ i, Norm (run U (bootWorld cfg) (e0 :: evs)).sess i ∧
      ∀ j, j < (run U (bootWorld cfg) (e0 :: evs)).sess.conns.length → j ≠ i →
        ((run U (bootWorld cfg) (e0 :: evs)).sess.conn j).phase = .closing ∨
        ((run U (bootWorld cfg) (e0 :: evs)).sess.conn j).phase = .closed := by
  have hk := skel_of_run U cfg e0 he0 evs hen
  generalize (run U (bootWorld cfg) (e0 :: evs)).sess = s at hs hk
  obtain ⟨i, hp, -, hup⟩ := hk.heal.sess hs
  have hn : Norm s i := norm_of_core hp hup
  refine ⟨i, hn, fun j hj hne => ?_⟩
  -- a connection that is neither closing nor closed is live, and the tracked one is the only live one
  have := Core.closed_of_not_live (c := core s) (j := j) fun hl =>
    hne (hk.one.unique hj hn.lt (live_core.1 hl) (.inr hn.up))
  rwa [core_conn] at this

end Yabgp

#print axioms Yabgp.C01_reachable_session_is_normal
