/- C03: the timer contract over every event list (Props/C03.lean), its stability under REST requests (Props/C03b.lean),
   deadlines move only for the right reason (Props/C03c.lean), the fixed limit of the wait for the peer's OPEN (Props/C03d.lean). -/
import Yabgp.Props.C03
import Yabgp.Props.C03b
import Yabgp.Props.C03c
import Yabgp.Props.C03d
