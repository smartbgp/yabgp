/-
  C06 — UPDATE encode/decode round trip for IPv4 unicast and the standard attributes.
-/
import Yabgp.Lemmas.UpdateRt

namespace Yabgp

/-- the messages C06 quantifies over: any combination of withdrawn and announced prefixes (every
    length 0..32, network form) and of the supported standard attributes with in-range values, in the
    given AS-width mode; attribute type codes are distinct because the input is a dictionary -/
structure ValidMsg (asn4 addpath : Bool) (m : UpdMsg) : Prop where
  attrs : ∀ kv ∈ m.attr, kv.1 ∈ constructCodes ∧ AttrOk asn4 kv.1 kv.2
  nodup : (keys m.attr).Nodup
  nlri : ∀ p ∈ m.nlri, PfxOk addpath p
  withdraw : ∀ p ∈ m.withdraw, PfxOk addpath p

/-- decoding the body of a constructed UPDATE returns exactly the prefixes and attribute values
    given, nothing more and nothing less, and flags no error -/
theorem C06_roundtrip_body (asn4 addpath : Bool) (m : UpdMsg) (body : Bytes)
    (hv : ValidMsg asn4 addpath m) (hc : constructUpdateBody asn4 addpath m = some body) :
    parseUpdate asn4 addpath body =
      some { withdraw := m.withdraw, nlri := m.nlri, attr := m.attr, subError := none } := by
  simp only [constructUpdateBody, Option.bind_eq_bind, Option.bind_eq_some_iff, Option.pure_def,
    Option.ite_none_right_eq_some, Option.some.injEq] at hc
  obtain ⟨a, ha, n, hn, w, hw, hlen, rfl⟩ := hc
  have hA := attrLoop_roundtrip asn4 m.attr [] a hv.attrs (by simpa [keys] using hv.nodup) ha
  rw [parseUpdate_layout asn4 addpath w a n hlen.1 hlen.2 (parsePrefixList_enc_all addpath _ w hv.withdraw hw),
    parsePrefixList_enc_all addpath _ n hv.nlri hn, parseAttributes, hA]
  rfl

/-- the whole message: the header carries the true size and type 2, and the body decodes back -/
theorem C06_roundtrip (asn4 addpath : Bool) (m : UpdMsg) (wire : Bytes)
    (hv : ValidMsg asn4 addpath m) (hc : constructUpdate asn4 addpath m = some wire) :
    ∃ body, wire = marker ++ be16 (body.length + 19) ++ be8 2 ++ body ∧ wire.length = body.length + 19 ∧
      parseUpdate asn4 addpath body =
        some { withdraw := m.withdraw, nlri := m.nlri, attr := m.attr, subError := none } := by
  simp only [constructUpdate, Option.bind_eq_bind, Option.bind_eq_some_iff, constructHeader, C.msgUpdate,
    Option.ite_none_right_eq_some, Option.some.injEq] at hc
  obtain ⟨body, hb, -, rfl⟩ := hc
  exact ⟨body, rfl, by simp [marker]; omega, C06_roundtrip_body asn4 addpath m body hv hb⟩

/-- non-vacuity: a concrete message with attributes, an announcement of 10.0.0.0/8, 0.0.0.0/0 and a
    withdrawal meets the hypotheses, and the constructor accepts it -/
example : ValidMsg false false
    { attr := [(1, .origin 0), (2, .asPath [(2, [65001, 1])]), (3, .nextHop 16843009), (8, .community [4294967041])],
      nlri := [{ addr := 167772160, len := 8 }, { addr := 0, len := 0 }],
      withdraw := [{ addr := 3232235776, len := 24 }] } := by
  constructor
  · intro kv hkv
    simp at hkv
    rcases hkv with rfl | rfl | rfl | rfl <;> simp [constructCodes, AttrOk, SegOk, asnOk]
  · decide
  · intro p hp; simp at hp; rcases hp with rfl | rfl <;> simp [PfxOk]
  · intro p hp; simp at hp; subst hp; simp [PfxOk]

example : (constructUpdate false false
    { attr := [(1, .origin 0), (2, .asPath [(2, [65001, 1])]), (3, .nextHop 16843009), (8, .community [4294967041])],
      nlri := [{ addr := 167772160, len := 8 }, { addr := 0, len := 0 }],
      withdraw := [{ addr := 3232235776, len := 24 }] }).isSome = true := by decide

end Yabgp

#print axioms Yabgp.C06_roundtrip
#print axioms Yabgp.C06_roundtrip_body
