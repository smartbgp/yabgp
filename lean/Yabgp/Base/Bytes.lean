/-
  Byte strings as `List UInt8`, big-endian encoders/readers and the few Python
  byte-string operations every yabgp decoder is built from (DESIGN §4.1, §4.2).
  Import-free.
-/
namespace Yabgp

abbrev Bytes := List UInt8

/-- one octet from a natural number (low 8 bits, like `struct.pack('!B', n & 0xff)`) -/
@[inline] def u8 (n : Nat) : UInt8 := UInt8.ofNat n

def be8 (n : Nat) : Bytes := [u8 n]
def be16 (n : Nat) : Bytes := [u8 (n / 256), u8 n]
def be24 (n : Nat) : Bytes := [u8 (n / 65536), u8 (n / 256), u8 n]
def be32 (n : Nat) : Bytes := [u8 (n / 16777216), u8 (n / 65536), u8 (n / 256), u8 n]

def beN : Nat → Nat → Bytes
  | 0, _ => []
  | k+1, n => beN k (n / 256) ++ [u8 n]

/-- big-endian value of a whole byte string (`int(binascii.b2a_hex(s), 16)` for non-empty `s`) -/
def beVal (b : Bytes) : Nat := b.foldl (fun acc x => acc * 256 + x.toNat) 0

def rd8 : Bytes → Option (Nat × Bytes)
  | a :: r => some (a.toNat, r)
  | _ => none
def rd16 : Bytes → Option (Nat × Bytes)
  | a :: b :: r => some (a.toNat * 256 + b.toNat, r)
  | _ => none
def rd24 : Bytes → Option (Nat × Bytes)
  | a :: b :: c :: r => some (a.toNat * 65536 + b.toNat * 256 + c.toNat, r)
  | _ => none
def rd32 : Bytes → Option (Nat × Bytes)
  | a :: b :: c :: d :: r =>
      some (a.toNat * 16777216 + b.toNat * 65536 + c.toNat * 256 + d.toNat, r)
  | _ => none

/-- Python slice `b[i:j]` (never fails, truncates) -/
def slice (b : Bytes) (i j : Nat) : Bytes := (b.take j).drop i

/-- `struct.unpack('!H', s)`: fails unless `len(s)` is exactly 2 -/
def unpackH : Bytes → Option Nat
  | [a, b] => some (a.toNat * 256 + b.toNat)
  | _ => none
def unpackB : Bytes → Option Nat
  | [a] => some a.toNat
  | _ => none
def unpackI : Bytes → Option Nat
  | [a, b, c, d] => some (a.toNat * 16777216 + b.toNat * 65536 + c.toNat * 256 + d.toNat)
  | _ => none

def takeExact (n : Nat) (b : Bytes) : Option (Bytes × Bytes) :=
  if n ≤ b.length then some (b.take n, b.drop n) else none

theorem u8_toNat {n : Nat} (h : n < 256) : (u8 n).toNat = n := by
  simp [u8, UInt8.toNat_ofNat']; omega

theorem u8_toNat_mod (n : Nat) : (u8 n).toNat = n % 256 := by
  simp [u8, UInt8.toNat_ofNat']

theorem u8_of_toNat (a : UInt8) : u8 a.toNat = a := by
  simp [u8]

theorem toNat_lt (a : UInt8) : a.toNat < 256 := UInt8.toNat_lt a

theorem u8_mod (n : Nat) : u8 (n % 256) = u8 n := by
  apply UInt8.toNat_inj.mp
  simp [u8_toNat_mod]

@[simp] theorem be16_length (n : Nat) : (be16 n).length = 2 := rfl
@[simp] theorem be32_length (n : Nat) : (be32 n).length = 4 := rfl
@[simp] theorem be24_length (n : Nat) : (be24 n).length = 3 := rfl
@[simp] theorem be8_length (n : Nat) : (be8 n).length = 1 := rfl
@[simp] theorem beN_length (k n : Nat) : (beN k n).length = k := by
  induction k generalizing n with
  | zero => rfl
  | succ k ih => simp [beN, ih]

/-! ### big-endian values of any width, and prefixes of them

  An address of `m` octets is sent as its first `k = ⌈len/8⌉` octets; a decoder pads them back with zeros and may clear
  the bits beyond `len` in the last octet sent.  The facts below say what value that is, for every `m`. -/

theorem beVal_snoc (a : Bytes) (x : UInt8) : beVal (a ++ [x]) = beVal a * 256 + x.toNat := by
  simp [beVal, List.foldl_append]

theorem beVal_take_beN {m k n : Nat} (hk : k ≤ m) (hn : n < 256 ^ m) :
    beVal ((beN m n).take k) = n / 256 ^ (m - k) := by
  induction m generalizing k n with
  | zero =>
    obtain rfl : k = 0 := by omega
    simp [beN, beVal]; omega
  | succ m ih =>
    have hn' : n / 256 < 256 ^ m := by
      rw [Nat.div_lt_iff_lt_mul (by decide)]; rwa [Nat.pow_succ] at hn
    rcases Nat.lt_or_ge k (m + 1) with h | h
    · rw [beN, List.take_append_of_le_length (by simp; omega), ih (by omega) hn', Nat.div_div_eq_div_mul,
        show m + 1 - k = (m - k) + 1 by omega, Nat.pow_succ, Nat.mul_comm]
    · obtain rfl : k = m + 1 := by omega
      have := ih (Nat.le_refl m) hn'
      rw [List.take_of_length_le (by simp)] at this ⊢
      rw [beN, beVal_snoc, this, u8_toNat_mod]
      simp; omega

/-- clearing the low `8k - len` bits of the first `k` octets of an `m`-octet value and padding back to `m` octets
    clears the low `8m - len` bits of the value (`len = 8k`: nothing is cleared but the octets not sent) -/
theorem clear_low_bits_octets {m k len : Nat} (hkm : k ≤ m) (hlk : len ≤ 8 * k) (n : Nat) :
    n / 256 ^ (m - k) / 2 ^ (8 * k - len) * 2 ^ (8 * k - len) * 256 ^ (m - k) =
      n / 2 ^ (8 * m - len) * 2 ^ (8 * m - len) := by
  have h256 : 256 ^ (m - k) = 2 ^ (8 * (m - k)) := by rw [Nat.pow_mul]
  have hsum : 8 * m - len = 8 * (m - k) + (8 * k - len) := by omega
  rw [h256, hsum, Nat.pow_add, Nat.div_div_eq_div_mul, Nat.mul_assoc, Nat.mul_comm (2 ^ (8 * k - len))]

/-- a value in network form (`P ∣ a`) survives any `j < P` written into its host bits, once they are cleared -/
theorem div_mul_of_net {P a j : Nat} (hz : a % P = 0) (hj : j < P) : (a + j) / P * P = a := by
  obtain ⟨q, rfl⟩ := Nat.dvd_of_mod_eq_zero hz
  rw [Nat.mul_add_div (by omega), Nat.div_eq_of_lt hj, Nat.add_zero, Nat.mul_comm]

theorem add_lt_of_net {P N a j : Nat} (hP : P ∣ N) (hz : a % P = 0) (hj : j < P) (ha : a < N) : a + j < N := by
  obtain ⟨c, rfl⟩ := hP
  obtain ⟨q, rfl⟩ := Nat.dvd_of_mod_eq_zero hz
  have : q + 1 ≤ c := Nat.lt_of_mul_lt_mul_left ha
  calc _ < P * (q + 1) := by rw [Nat.mul_succ]; omega
    _ ≤ _ := Nat.mul_le_mul_left _ this

theorem beVal_beN_of_lt {m n : Nat} (h : n < 256 ^ m) : beVal (beN m n) = n := by
  have := beVal_take_beN (Nat.le_refl m) h
  rwa [List.take_of_length_le (by simp), Nat.sub_self, Nat.pow_zero, Nat.div_one] at this

theorem be24_beN (n : Nat) : be24 n = beN 3 n := by
  simp [be24, beN, Nat.div_div_eq_div_mul]

theorem be32_beN (n : Nat) : be32 n = beN 4 n := by
  simp [be32, beN, Nat.div_div_eq_div_mul]

theorem beVal_be8 {n : Nat} (h : n < 256) : beVal (be8 n) = n := beVal_beN_of_lt (m := 1) h

theorem beVal_be16 {n : Nat} (h : n < 65536) : beVal (be16 n) = n := beVal_beN_of_lt (m := 2) h

theorem beVal_be24 {n : Nat} (h : n < 16777216) : beVal (be24 n) = n := be24_beN n ▸ beVal_beN_of_lt (m := 3) h

theorem beVal_be32 {n : Nat} (h : n < 4294967296) : beVal (be32 n) = n := be32_beN n ▸ beVal_beN_of_lt (m := 4) h

/-- the same in the form the 2-, 3- and 4-octet readers and decoders compute the value -/
theorem be16_val {n : Nat} (h : n < 65536) : (u8 (n / 256)).toNat * 256 + (u8 n).toNat = n := by
  simpa [beVal, be16] using beVal_be16 h

theorem be24_val {n : Nat} (h : n < 16777216) :
    (u8 (n / 65536)).toNat * 65536 + (u8 (n / 256)).toNat * 256 + (u8 n).toNat = n := by
  have := beVal_be24 h
  simp only [beVal, be24, List.foldl, Nat.zero_mul, Nat.zero_add, Nat.add_mul, Nat.mul_assoc] at this
  exact this

theorem be32_val {n : Nat} (h : n < 4294967296) :
    (u8 (n / 16777216)).toNat * 16777216 + (u8 (n / 65536)).toNat * 65536 + (u8 (n / 256)).toNat * 256 +
      (u8 n).toNat = n := by
  have := beVal_be32 h
  simp only [beVal, be32, List.foldl, Nat.zero_mul, Nat.zero_add, Nat.add_mul, Nat.mul_assoc] at this
  exact this

theorem rd8_be8 {n : Nat} (h : n < 256) (r : Bytes) : rd8 (be8 n ++ r) = some (n, r) := by
  simp only [be8, rd8, List.cons_append, List.nil_append]; rw [u8_toNat h]

theorem rd16_be16 {n : Nat} (h : n < 65536) (r : Bytes) : rd16 (be16 n ++ r) = some (n, r) := by
  simp only [be16, rd16, List.cons_append, List.nil_append, be16_val h]

theorem rd24_be24 {n : Nat} (h : n < 16777216) (r : Bytes) : rd24 (be24 n ++ r) = some (n, r) := by
  simp only [be24, rd24, List.cons_append, List.nil_append, be24_val h]

theorem rd32_be32 {n : Nat} (h : n < 4294967296) (r : Bytes) : rd32 (be32 n ++ r) = some (n, r) := by
  simp only [be32, rd32, List.cons_append, List.nil_append, be32_val h]

theorem unpackB_be8 {n : Nat} (h : n < 256) : unpackB (be8 n) = some n := by
  simp only [be8, unpackB]; rw [u8_toNat h]

theorem unpackH_be16 {n : Nat} (h : n < 65536) : unpackH (be16 n) = some n := by
  simp only [be16, unpackH, be16_val h]

theorem unpackI_be32 {n : Nat} (h : n < 4294967296) : unpackI (be32 n) = some n := by
  simp only [be32, unpackI, be32_val h]

theorem unpackH_none {v : Bytes} (h : v.length ≠ 2) : unpackH v = none := by
  match v with
  | [] | [_] | _ :: _ :: _ :: _ => rfl
  | [_, _] => simp at h

theorem unpackI_none {v : Bytes} (h : v.length ≠ 4) : unpackI v = none := by
  match v with
  | [] | [_] | [_, _] | [_, _, _] | _ :: _ :: _ :: _ :: _ :: _ => rfl
  | [_, _, _, _] => simp at h

theorem be32_small {t : Nat} (h : t < 65536) : be32 t = [0, 0] ++ be16 t := by
  simp only [be32, be16, List.cons_append, List.nil_append]
  have h1 : t / 16777216 = 0 := Nat.div_eq_of_lt (by omega)
  have h2 : t / 65536 = 0 := Nat.div_eq_of_lt (by omega)
  rw [h1, h2]; rfl

theorem rd16_lt {b r : Bytes} {n : Nat} (h : rd16 b = some (n, r)) : n < 65536 := by
  match b, h with
  | a :: c :: _, h =>
    simp only [rd16, Option.some.injEq, Prod.mk.injEq] at h
    have := toNat_lt a; have := toNat_lt c; omega

theorem rd16_length {b r : Bytes} {n : Nat} (h : rd16 b = some (n, r)) : b.length = r.length + 2 := by
  match b, h with
  | a :: c :: _, h =>
    simp only [rd16, Option.some.injEq, Prod.mk.injEq] at h
    simp [← h.2]

theorem rd8_length {b r : Bytes} {n : Nat} (h : rd8 b = some (n, r)) : b.length = r.length + 1 := by
  match b, h with
  | a :: _, h =>
    simp only [rd8, Option.some.injEq, Prod.mk.injEq] at h
    simp [← h.2]

theorem rd32_length {b r : Bytes} {n : Nat} (h : rd32 b = some (n, r)) : b.length = r.length + 4 := by
  match b, h with
  | a :: c :: d :: e :: _, h =>
    simp only [rd32, Option.some.injEq, Prod.mk.injEq] at h
    simp [← h.2]

theorem takeExact_append (a r : Bytes) : takeExact a.length (a ++ r) = some (a, r) := by
  simp [takeExact]

theorem takeExact_length {n : Nat} {b x r : Bytes} (h : takeExact n b = some (x, r)) :
    x.length = n ∧ b.length = n + r.length ∧ b = x ++ r := by
  unfold takeExact at h
  split at h
  · simp only [Option.some.injEq, Prod.mk.injEq] at h
    obtain ⟨h1, h2⟩ := h
    subst h1; subst h2
    refine ⟨?_, ?_, ?_⟩
    · simp; omega
    · simp; omega
    · simp
  · simp at h

theorem slice_mid {p x s : Bytes} {i j : Nat} (hi : i = p.length) (hj : j = p.length + x.length) :
    slice (p ++ x ++ s) i j = x := by
  subst hi; subst hj
  unfold slice
  rw [List.take_left' (l₁ := p ++ x) (by simp)]
  exact List.drop_left' rfl

theorem length_flatMap_const {α β : Type} (k : Nat) {f : α → List β} (hf : ∀ a, (f a).length = k) (l : List α) :
    (l.flatMap f).length = k * l.length := by
  induction l with
  | nil => rfl
  | cons x r ih => rw [List.flatMap_cons, List.length_append, ih, hf, List.length_cons, Nat.mul_succ, Nat.add_comm]

theorem find?_key_of_mem {α β : Type} [DecidableEq β] (f : α → β) {l : List α} (h : (l.map f).Nodup) {e : α}
    (he : e ∈ l) : l.find? (fun x => f x = f e) = some e := by
  induction l with
  | nil => cases he
  | cons a l ih =>
    rw [List.map_cons, List.nodup_cons] at h
    rw [List.find?_cons]
    rcases List.mem_cons.mp he with rfl | he'
    · simp
    · have : f a ≠ f e := fun hae => h.1 (hae ▸ List.mem_map_of_mem he')
      simp only [this, decide_false]
      exact ih h.2 he'

/-- turns an `if` into two implications, so that `omega` can compare a cascade of `if`s with a quotient -/
theorem ite_eq_iff_imp {c : Prop} [Decidable c] {a b k : Nat} :
    (if c then a else b) = k ↔ (c → a = k) ∧ (¬ c → b = k) := by
  by_cases h : c <;> simp [h]

theorem charOfNat_toNat {n : Nat} (h : n < 0xd800) : (Char.ofNat n).toNat = n := by
  unfold Char.ofNat; rw [dif_pos (Or.inl h)]; rfl

/-- hex rendering (lower case, two digits per octet), as `binascii.b2a_hex` -/
def hexDigit (n : Nat) : Char :=
  if n < 10 then Char.ofNat (48 + n) else Char.ofNat (87 + n)
def toHex (b : Bytes) : String :=
  String.ofList (b.flatMap fun x => [hexDigit (x.toNat / 16), hexDigit (x.toNat % 16)])

def hexVal (c : Char) : Option Nat :=
  if '0' ≤ c ∧ c ≤ '9' then some (c.toNat - 48)
  else if 'a' ≤ c ∧ c ≤ 'f' then some (c.toNat - 87)
  else if 'A' ≤ c ∧ c ≤ 'F' then some (c.toNat - 55)
  else none

def ofHexList : List Char → Option Bytes
  | [] => some []
  | a :: b :: r => do
      let x ← hexVal a; let y ← hexVal b; let t ← ofHexList r
      pure (u8 (x * 16 + y) :: t)
  | _ => none
def ofHex (s : String) : Option Bytes := ofHexList s.toList

theorem be16_eq_beN (v : Nat) : be16 v = beN 2 v := by
  simp [be16, beN]

theorem beN_ne_nil {k v : Nat} (h : 0 < k) : beN k v ≠ [] :=
  fun hh => by have := beN_length k v; rw [hh] at this; exact absurd this (by simp; omega)

/-! ### slices of concatenations

  A decoder that reads fields at fixed offsets is followed through a concatenation `a ++ (b ++ ..)` of fields of known
  lengths by skipping the fields in front (`slice_skip`, `drop_skip`: rewriting with `slice_skip ha`, `ha : a.length = 8`,
  turns `slice (a ++ r) 18 22` into `slice r 10 14`) and taking the one that is then first (`slice_take`). -/

theorem slice_take {a r : Bytes} {n : Nat} (ha : a.length = n) : slice (a ++ r) 0 n = a := by
  subst ha; simp [slice]

theorem drop_skip {a r : Bytes} {n : Nat} (ha : a.length = n) (i : Nat) : (a ++ r).drop (i + n) = r.drop i := by
  subst ha; rw [Nat.add_comm, ← List.drop_drop, List.drop_left]

theorem slice_skip {a r : Bytes} {n : Nat} (ha : a.length = n) (i j : Nat) :
    slice (a ++ r) (i + n) (j + n) = slice r i j := by
  subst ha
  rw [slice, slice, List.drop_take, Nat.add_sub_add_right, drop_skip rfl, ← List.drop_take]

theorem slice_take_one (x : UInt8) (r : Bytes) : slice (x :: r) 0 1 = [x] := slice_take (a := [x]) rfl

theorem slice_skip_one (x : UInt8) (r : Bytes) (i j : Nat) : slice (x :: r) (i + 1) (j + 1) = slice r i j :=
  slice_skip (a := [x]) rfl i j

theorem slice_zero_all {a : Bytes} {n : Nat} (ha : a.length ≤ n) : slice a 0 n = a := by
  simp [slice, List.take_of_length_le ha]

end Yabgp
