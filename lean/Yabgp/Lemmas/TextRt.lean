/-
  Inverse laws of the text forms of Model/Text.lean (DESIGN §4.4), and the splitting lemmas the C17 proofs are built
  from.
-/
import Yabgp.Model.Text

namespace Yabgp.Text

def IsDigit (c : Char) : Prop := 48 ≤ c.toNat ∧ c.toNat ≤ 57

def AllDigits (s : List Char) : Prop := ∀ c ∈ s, IsDigit c

theorem digitChar_toNat {d : Nat} (h : d < 10) : (digitChar d).toNat = 48 + d := charOfNat_toNat (by omega)

theorem digitChar_isDigit {d : Nat} (h : d < 10) : IsDigit (digitChar d) := by
  unfold IsDigit; rw [digitChar_toNat h]; omega

theorem digitVal_digitChar {d : Nat} (h : d < 10) : digitVal (digitChar d) = some d := by
  unfold digitVal; rw [digitChar_toNat h]
  rw [if_pos (by omega)]; congr 1; omega

theorem IsDigit.ne {c d : Char} (h : IsDigit c) (hd : d.toNat < 48 ∨ 57 < d.toNat) : c ≠ d := by
  rintro rfl; unfold IsDigit at h; omega

theorem AllDigits.not_mem {s : List Char} (h : AllDigits s) {d : Char} (hd : d.toNat < 48 ∨ 57 < d.toNat) :
    d ∉ s := fun hm => (h d hm).ne hd rfl

theorem AllDigits.append {s t : List Char} (hs : AllDigits s) (ht : AllDigits t) : AllDigits (s ++ t) :=
  List.forall_mem_append.mpr ⟨hs, ht⟩

theorem decStr_lt {n : Nat} (h : n < 10) : decStr n = [digitChar n] := by
  rw [decStr, decRev]; simp [h]

theorem decStr_ge {n : Nat} (h : 10 ≤ n) : decStr n = decStr (n / 10) ++ [digitChar (n % 10)] := by
  rw [decStr, decRev]; simp [Nat.not_lt.mpr h, decStr]

theorem decStr_ne_nil (n : Nat) : decStr n ≠ [] := by
  by_cases h : n < 10
  · simp [decStr_lt h]
  · simp [decStr_ge (Nat.not_lt.mp h)]

theorem decStr_allDigits (n : Nat) : AllDigits (decStr n) := by
  induction n using Nat.strongRecOn with
  | _ n ih =>
    by_cases h : n < 10
    · rw [decStr_lt h]; intro c hc; simp at hc; subst hc; exact digitChar_isDigit h
    · rw [decStr_ge (Nat.not_lt.mp h)]
      apply AllDigits.append (ih (n / 10) (by omega))
      intro c hc; simp at hc; subst hc; exact digitChar_isDigit (by omega)

/-- in particular none of the separators the text forms use occurs in it -/
theorem decStr_no_sep (n : Nat) : ':' ∉ decStr n ∧ '.' ∉ decStr n ∧ ',' ∉ decStr n ∧ '-' ∉ decStr n :=
  ⟨(decStr_allDigits n).not_mem (by decide), (decStr_allDigits n).not_mem (by decide),
   (decStr_allDigits n).not_mem (by decide), (decStr_allDigits n).not_mem (by decide)⟩

theorem decStr_head_isDigit (n : Nat) : ∃ c r, decStr n = c :: r ∧ IsDigit c := by
  cases h : decStr n with
  | nil => exact absurd h (decStr_ne_nil n)
  | cons c r => exact ⟨c, r, rfl, decStr_allDigits n c (by simp [h])⟩

theorem parseDecAux_append (acc : Nat) (s t : List Char) :
    parseDecAux acc (s ++ t) = (parseDecAux acc s).bind (fun v => parseDecAux v t) := by
  induction s generalizing acc with
  | nil => simp [parseDecAux]
  | cons c r ih =>
    simp only [List.cons_append, parseDecAux]
    cases digitVal c with
    | none => simp
    | some d => simp [ih]

theorem parseDecAux_decStr (n : Nat) : parseDecAux 0 (decStr n) = some n := by
  induction n using Nat.strongRecOn with
  | _ n ih =>
    by_cases h : n < 10
    · rw [decStr_lt h]; simp [parseDecAux, digitVal_digitChar h]
    · have h10 : 10 ≤ n := Nat.not_lt.mp h
      rw [decStr_ge h10, parseDecAux_append, ih (n / 10) (by omega)]
      simp only [Option.bind_some, parseDecAux, digitVal_digitChar (Nat.mod_lt n (by omega : 10 > 0))]
      congr 1; omega

/-- `int(str(n)) == n` -/
theorem parseDec_decStr (n : Nat) : parseDec (decStr n) = some n := by
  rw [← parseDecAux_decStr n]
  cases h : decStr n with
  | nil => exact absurd h (decStr_ne_nil n)
  | cons c r => rfl

theorem splitOnFirst_append {sep : Char} {a : List Char} (b : List Char) (h : sep ∉ a) :
    splitOnFirst sep (a ++ sep :: b) = some (a, b) := by
  induction a with
  | nil => simp [splitOnFirst]
  | cons c r ih =>
    have hc : c ≠ sep := fun e => h (by simp [e])
    have hr : sep ∉ r := fun e => h (by simp [e])
    simp [splitOnFirst, hc, ih hr]

theorem splitOnFirst_none {sep : Char} {s : List Char} (h : sep ∉ s) : splitOnFirst sep s = none := by
  induction s with
  | nil => rfl
  | cons c r ih =>
    have hc : c ≠ sep := fun e => h (by simp [e])
    have hr : sep ∉ r := fun e => h (by simp [e])
    simp [splitOnFirst, hc, ih hr]

theorem splitAll_of_none {sep : Char} {s : List Char} (h : splitOnFirst sep s = none) :
    splitAll sep s = [s] := by
  rw [splitAll]; split <;> simp_all

theorem splitAll_of_some {sep : Char} {s a b : List Char} (h : splitOnFirst sep s = some (a, b)) :
    splitAll sep s = a :: splitAll sep b := by
  rw [splitAll]; split <;> simp_all

theorem splitAll_single {sep : Char} {s : List Char} (h : sep ∉ s) : splitAll sep s = [s] :=
  splitAll_of_none (splitOnFirst_none h)

/-- `(a + sep + b).split(sep) == [a] + b.split(sep)` when `sep` is not in `a` -/
theorem splitAll_append {sep : Char} {a : List Char} (b : List Char) (h : sep ∉ a) :
    splitAll sep (a ++ sep :: b) = a :: splitAll sep b :=
  splitAll_of_some (splitOnFirst_append b h)

theorem ipv4Str_eq (n : Nat) :
    ipv4Str n = decStr (n / 16777216 % 256) ++ '.' :: (decStr (n / 65536 % 256) ++ '.' ::
      (decStr (n / 256 % 256) ++ '.' :: decStr (n % 256))) := by
  simp [ipv4Str]

/-- `netaddr.IPAddress(str(netaddr.IPAddress(n)))` is `n` again -/
theorem parseIpv4_ipv4Str {n : Nat} (h : n < 4294967296) : parseIpv4 (ipv4Str n) = some n := by
  unfold parseIpv4
  rw [ipv4Str_eq, splitAll_append _ (decStr_no_sep _).2.1, splitAll_append _ (decStr_no_sep _).2.1,
    splitAll_append _ (decStr_no_sep _).2.1, splitAll_single (decStr_no_sep _).2.1]
  simp only [parseDec_decStr]
  rw [if_pos (by omega)]
  congr 1; omega

theorem ipv4Str_no_sep (n : Nat) : ':' ∉ ipv4Str n ∧ ',' ∉ ipv4Str n := by
  have h := fun k => decStr_no_sep k
  constructor <;> simp [ipv4Str, h]

theorem ipv4Str_has_dot (n : Nat) : '.' ∈ ipv4Str n := by simp [ipv4Str]

theorem parseLarge_largeStr (t : Nat × Nat × Nat) : parseLarge (largeStr t) = some t := by
  unfold parseLarge largeStr
  have e : decStr t.1 ++ [':'] ++ decStr t.2.1 ++ [':'] ++ decStr t.2.2
      = decStr t.1 ++ ':' :: (decStr t.2.1 ++ ':' :: decStr t.2.2) := by simp
  rw [e, splitAll_append _ (decStr_no_sep _).1, splitAll_append _ (decStr_no_sep _).1,
    splitAll_single (decStr_no_sep _).1]
  simp only [parseDec_decStr]

/-- what the round trip needs of the table: values and upper-cased names are pairwise distinct, and no name starts
    with a digit, also after upper-casing (finite table) -/
theorem wellKnown_distinct :
    (wellKnown.map (·.1)).Nodup ∧ (wellKnown.map fun e => upper e.2.toList).Nodup ∧
    ∀ e ∈ wellKnown, ((upper e.2.toList).head?.map fun c => decide (48 ≤ c.toNat ∧ c.toNat ≤ 57)) = some false := by
  decide

theorem commStr_wellKnown {e : Nat × String} (he : e ∈ wellKnown) : commStr e.1 = e.2.toList := by
  rw [commStr, find?_key_of_mem (·.1) wellKnown_distinct.1 he]

theorem parseComm_wellKnown {e : Nat × String} (he : e ∈ wellKnown) : parseComm e.2.toList = some e.1 := by
  rw [parseComm, find?_key_of_mem (fun e => upper e.2.toList) wellKnown_distinct.2.1 he]

theorem upperChar_digit {c : Char} (h : IsDigit c) : upperChar c = c := by
  unfold upperChar; unfold IsDigit at h; rw [if_neg (by omega)]

theorem commPlain_eq (v : Nat) : commPlain v = decStr (v / 65536) ++ ':' :: decStr (v % 65536) := by
  simp [commPlain]

theorem find_name_none_of_digit_head {c : Char} {r : List Char} (hc : IsDigit c) :
    wellKnown.find? (fun e => upper e.2.toList = upper (c :: r)) = none := by
  rw [List.find?_eq_none]
  intro e he heq
  have h1 := wellKnown_distinct.2.2 e he
  simp only [decide_eq_true_eq] at heq
  rw [heq] at h1
  simp only [upper, List.map_cons, List.head?_cons, Option.map_some, Option.some.injEq,
    decide_eq_false_iff_not, upperChar_digit hc] at h1
  exact h1 hc

theorem parseComm_commPlain {v : Nat} (h : v < 4294967296) : parseComm (commPlain v) = some v := by
  obtain ⟨c, r, hcr, hc⟩ := decStr_head_isDigit (v / 65536)
  have hs : commPlain v = c :: (r ++ ':' :: decStr (v % 65536)) := by
    rw [commPlain_eq, hcr]; rfl
  unfold parseComm
  rw [hs, find_name_none_of_digit_head hc, ← hs, commPlain_eq, splitAll_append _ (decStr_no_sep _).1,
    splitAll_single (decStr_no_sep _).1]
  simp only [parseDec_decStr]
  rw [if_pos (by omega)]
  congr 1; omega

/-- `Community.construct` reads every rendering of `Community.parse` back as the same 32-bit value:
    the well-known names (all of the table) and the plain "a:b" form -/
theorem parseComm_commStr {v : Nat} (h : v < 4294967296) : parseComm (commStr v) = some v := by
  unfold commStr
  cases hf : wellKnown.find? (·.1 = v) with
  | none => exact parseComm_commPlain h
  | some e =>
    have hv : e.1 = v := by simpa using List.find?_some hf
    exact hv ▸ parseComm_wellKnown (List.mem_of_find?_eq_some hf)

end Yabgp.Text
