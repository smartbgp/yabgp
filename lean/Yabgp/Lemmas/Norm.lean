/-
  The "normal" situation every RFC reaction is stated for: the state machine tracks connection `i`, which is
  up and which we have not closed.  Under it the close / error helpers have an explicit closed form.
-/
import Yabgp.Lemmas.Basic
import Yabgp.Lemmas.Keeps

namespace Yabgp
namespace Sess

structure Norm (s : Sess) (i : Nat) : Prop where
  proto : s.proto = some i
  lt : i < s.conns.length
  up : (s.conn i).phase = .connected
  nd : (s.conn i).disconnected = false

/-- the NOTIFICATION message with the given code, sub-code and data, as RFC 4271 §4.5 lays it out -/
def notifWire (e sub : Nat) (d : Bytes) : Bytes :=
  marker ++ be16 (d.length + 21) ++ be8 3 ++ (be8 e ++ be8 sub ++ d)

theorem constructNotification_eq (e sub : Nat) (d : Bytes) (he : e < 256) (hs : sub < 256)
    (hd : d.length + 21 < 65536) : constructNotification e sub d = some (notifWire e sub d) := by
  have hl : (be8 e ++ be8 sub ++ d).length = d.length + 2 := by simp; omega
  rw [constructNotification, if_pos ⟨he, hs⟩, constructHeader_some, hl]
  exact ⟨by omega, rfl⟩

theorem Norm.of_conns {s s' : Sess} {i : Nat} (h : Norm s i) (hc : s'.conns = s.conns) (hp : s'.proto = s.proto) :
    Norm s' i :=
  ⟨hp.trans h.proto, by rw [hc]; exact h.lt, by simpa [conn, hc] using h.up, by simpa [conn, hc] using h.nd⟩

theorem Norm.setConn {s : Sess} {i : Nat} (h : Norm s i) (j : Nat) {c : Conn} (hp : c.phase = (s.conn j).phase)
    (hd : c.disconnected = (s.conn j).disconnected) : Norm (s.setConn j c) i := by
  refine ⟨h.proto, (len_setConn s j c).symm ▸ h.lt, ?_, ?_⟩ <;> rw [conn_setConn] <;> split
  · rename_i hh; rw [hp, hh.1]; exact h.up
  · exact h.up
  · rename_i hh; rw [hd, hh.1]; exact h.nd
  · exact h.nd

theorem Norm.setAsn4 {s : Sess} {i : Nat} (h : Norm s i) (j : Nat) : Norm (s.setAsn4 j) i := h.setConn j rfl rfl

theorem Norm.bumpSent {s : Sess} {i : Nat} (h : Norm s i) (j : Nat) (g : Stats → Stats) : Norm (s.bumpSent j g) i :=
  h.setConn j rfl rfl

theorem Norm.bumpRecv {s : Sess} {i : Nat} (h : Norm s i) (j : Nat) (g : Stats → Stats) : Norm (s.bumpRecv j g) i :=
  h.setConn j rfl rfl

theorem Norm.emit {s : Sess} {i : Nat} (h : Norm s i) (o : Out) : Norm (s.emit o) i := h.of_conns rfl rfl
theorem Norm.withTm {s : Sess} {i : Nat} (h : Norm s i) (v : Timers) : Norm (s.withTm v) i := h.of_conns rfl rfl
theorem Norm.setRetry {s : Sess} {i : Nat} (h : Norm s i) (v : Option Nat) : Norm (s.setRetry v) i := h.of_conns rfl rfl
theorem Norm.setHold {s : Sess} {i : Nat} (h : Norm s i) (v : Option Nat) : Norm (s.setHold v) i := h.of_conns rfl rfl
theorem Norm.setKeepalive {s : Sess} {i : Nat} (h : Norm s i) (v : Option Nat) : Norm (s.setKeepalive v) i := h.of_conns rfl rfl
theorem Norm.withRemote {s : Sess} {i : Nat} (h : Norm s i) (v : CapaDict) : Norm (s.withRemote v) i := h.of_conns rfl rfl
theorem Norm.withHoldTime {s : Sess} {i : Nat} (h : Norm s i) (v : Nat) : Norm (s.withHoldTime v) i := h.of_conns rfl rfl
theorem Norm.withOuts {s : Sess} {i : Nat} (h : Norm s i) (v : List Out) : Norm (s.withOuts v) i := h.of_conns rfl rfl

theorem sendNotification_norm {s : Sess} {i : Nat} (h : Norm s i) (e sub : Nat) (d : Bytes)
    (he : e < 256) (hs : sub < 256) (hd : d.length + 21 < 65536) :
    s.sendNotification e sub d = (s.bumpSent i incNotifications).emit (.write i (notifWire e sub d)) := by
  simp only [sendNotification, h.proto, constructNotification_eq e sub d he hs hd]
  have := (h.bumpSent i incNotifications).up
  simp [writeOn, transportUp, this]

theorem sendKeepalive_norm {s : Sess} {i : Nat} (h : Norm s i) :
    s.sendKeepalive = (s.bumpSent i incKeepalives).emit (.write i constructKeepalive) := by
  simp only [sendKeepalive, h.proto]
  have := (h.bumpSent i incKeepalives).up
  simp [writeOn, transportUp, this]

theorem closeConn_norm {s : Sess} {i : Nat} (h : Norm s i) :
    s.closeConn = ((((s.setPhase i .closing).setDisconnected i).emit (.lose i))).withRetryCounter 0 := by
  simp only [closeConn, h.proto, closeOn, h.up, ↓reduceIte]

theorem errorClose_norm {s : Sess} {i : Nat} (h : Norm s i) :
    s.errorClose =
      ((((((s.withTm { retry := none, hold := none, keepalive := none, idleHold := some s.idleDeadline }).setPhase i
        .closing).setDisconnected i).emit (.lose i)).withRetryCounter 0).incRetryCounter).withSt .idle := by
  unfold errorClose
  rw [closeConn_norm (h.withTm _)]
  simp [setSt]

theorem connectTcp_eq (s : Sess) (h : s.st ≠ .established) :
    s.connectTcp = ((s.abortPending.withConns (s.abortPending.conns ++ [({} : Conn)])).emit (.connect s.conns.length)).withPending
      (some s.conns.length) := by
  rw [connectTcp, if_pos (by rwa [st_abortPending]), len_abortPending]

theorem sendOpen_eq (t : Sess) (i : Nat) (w : Bytes) (hp : t.proto = some i) (hup : transportUp (t.conn i) = true)
    (hw : t.openWire = some w) :
    t.sendOpen = ((((t.withLocalCaps (negotiateCaps t.localCaps t.remote)).emit (.write i w)).bumpSent i incOpens).emit
      (.hSendOpen i t.cfg.localAs t.cfg.holdCfg (t.bgpId.getD 0)), true) := by
  have hup' : transportUp ((t.withLocalCaps (negotiateCaps t.localCaps t.remote)).conn i) = true := hup
  simp only [sendOpen, hp, hw, writeOn, hup', if_true]

theorem connOk_eq (s : Sess) (i : Nat) (w : Bytes) (hlt : i < s.conns.length)
    (hw : constructOpen 4 s.cfg.localAs s.cfg.holdCfg (s.bgpId.getD s.cfg.localId) (negotiateCaps s.localCaps s.remote) = some w) :
    s.connOk i = ((((((((((((s.setPhase i .connected).withProto (some i)).withSt .connect).withEstab (some i)).withBgpId
      (some (s.bgpId.getD s.cfg.localId))).setRetry none).setIdleHold none).withLocalCaps (negotiateCaps s.localCaps s.remote)).emit
      (.write i w)).bumpSent i incOpens).emit (.hSendOpen i s.cfg.localAs s.cfg.holdCfg (s.bgpId.getD s.cfg.localId))).setHold
      (some (s.now + 3 * C.largeHoldTime))).withSt .openSent := by
  have hup : transportUp ((s.setPhase i .connected).conn i) = true := by
    simp [setPhase, conn_setConn, hlt, transportUp]
  rw [connOk, setSt_of_ne _ (by simp), connectionMade, sendOpen_eq _ i w ?_ ?_ ?_, if_pos rfl, setSt_of_ne _ (by simp)]
  -- what is left holds by unfolding; on a variable `s` the unifier tries `setters s =?= s` field by field at every level
  -- of the chain before it unfolds, on a constructor the projections just reduce
  all_goals cases s
  · rfl
  · rfl
  · exact hup
  · exact hw

theorem outs_closeConn_norm {s : Sess} {i : Nat} (h : Norm s i) : s.closeConn.outs = s.outs ++ [.lose i] := by
  rw [closeConn_norm h]; rfl

theorem outs_errorClose_norm {s : Sess} {i : Nat} (h : Norm s i) : s.errorClose.outs = s.outs ++ [.lose i] := by
  rw [errorClose_norm h]; rfl

theorem outs_notifyClose_norm {s : Sess} {i : Nat} (h : Norm s i) (e sub : Nat) (d : Bytes)
    (he : e < 256) (hs : sub < 256) (hd : d.length + 21 < 65536) :
    ((s.sendNotification e sub d).errorClose).outs = s.outs ++ [.write i (notifWire e sub d), .lose i] := by
  rw [sendNotification_norm h e sub d he hs hd, outs_errorClose_norm ((h.bumpSent i _).emit _)]
  exact List.append_assoc s.outs [_] [_]

end Sess
end Yabgp
