/-
  What each helper does to the FSM state.
-/
import Yabgp.Lemmas.SessBasic

namespace Yabgp
namespace Sess

@[simp] theorem st_emit (s : Sess) (o : Out) : (s.emit o).st = s.st := rfl
@[simp] theorem st_withTm (s : Sess) (v : Timers) : (s.withTm v).st = s.st := rfl
@[simp] theorem st_withRetryCounter (s : Sess) (v : Nat) : (s.withRetryCounter v).st = s.st := rfl
@[simp] theorem st_incRetryCounter (s : Sess) : (s.incRetryCounter).st = s.st := rfl
@[simp] theorem st_withHoldTime (s : Sess) (v : Nat) : (s.withHoldTime v).st = s.st := rfl
@[simp] theorem st_withRemote (s : Sess) (v : CapaDict) : (s.withRemote v).st = s.st := rfl
@[simp] theorem st_setRetry (s : Sess) (v : Option Nat) : (s.setRetry v).st = s.st := rfl
@[simp] theorem st_setHold (s : Sess) (v : Option Nat) : (s.setHold v).st = s.st := rfl
@[simp] theorem st_setKeepalive (s : Sess) (v : Option Nat) : (s.setKeepalive v).st = s.st := rfl
@[simp] theorem st_setIdleHold (s : Sess) (v : Option Nat) : (s.setIdleHold v).st = s.st := rfl
@[simp] theorem st_setConn (s : Sess) (i : Nat) (c : Conn) : (s.setConn i c).st = s.st := rfl
@[simp] theorem st_setPhase (s : Sess) (i : Nat) (p : Phase) : (s.setPhase i p).st = s.st := rfl
@[simp] theorem st_setDisconnected (s : Sess) (i : Nat) : (s.setDisconnected i).st = s.st := rfl
@[simp] theorem st_setAsn4 (s : Sess) (i : Nat) : (s.setAsn4 i).st = s.st := rfl
@[simp] theorem st_bumpSent (s : Sess) (i : Nat) (g : Stats → Stats) : (s.bumpSent i g).st = s.st := rfl
@[simp] theorem st_bumpRecv (s : Sess) (i : Nat) (g : Stats → Stats) : (s.bumpRecv i g).st = s.st := rfl
@[simp] theorem st_withSt (s : Sess) (v : St) : (s.withSt v).st = v := rfl

@[simp] theorem st_setSt (s : Sess) (v : St) : (s.setSt v).st = v := by
  unfold Sess.setSt; split <;> rfl

@[simp] theorem st_writeOn (s : Sess) (i : Nat) (b : Bytes) : (s.writeOn i b).st = s.st := by
  unfold writeOn; split <;> rfl

@[simp] theorem st_connectTcp (s : Sess) : s.connectTcp.st = s.st := by unfold connectTcp; split <;> simp [withConns]

@[simp] theorem st_sendNotification (s : Sess) (e sub : Nat) (d : Bytes) : (s.sendNotification e sub d).st = s.st := by
  unfold sendNotification; split
  · rfl
  · split <;> simp

@[simp] theorem st_sendKeepalive (s : Sess) : (s.sendKeepalive).st = s.st := by
  unfold sendKeepalive; split <;> simp

@[simp] theorem st_closeOn (s : Sess) (i : Nat) : (s.closeOn i).st = s.st := by
  unfold closeOn; split
  · simp
  · split <;> simp

@[simp] theorem st_closeConn (s : Sess) : (s.closeConn).st = s.st := by
  unfold closeConn; split <;> simp

@[simp] theorem st_errorClose (s : Sess) : (s.errorClose).st = .idle := by
  unfold errorClose; simp

@[simp] theorem st_headerError (s : Sess) (sub : Nat) (d : Bytes) : (s.headerError sub d).st = .idle := by
  unfold headerError; simp

@[simp] theorem st_openMessageError (s : Sess) (sub : Nat) : (s.openMessageError sub).st = .idle := by
  unfold openMessageError; simp

@[simp] theorem st_restartHold (s : Sess) : (s.restartHold).st = s.st := by
  unfold restartHold; split <;> simp

theorem st_fsmOpenReceived (s : Sess) :
    (s.fsmOpenReceived).st = (if s.st = .openSent then .openConfirm else .idle) := by
  unfold fsmOpenReceived
  cases h : s.st <;> simp [h]
  split <;> simp

theorem st_fsmKeepaliveReceived (s : Sess) :
    (s.fsmKeepaliveReceived).st =
      (if s.st = .openConfirm ∨ s.st = .established then .established else .idle) := by
  unfold fsmKeepaliveReceived
  cases h : s.st <;> simp [h]

theorem st_fsmUpdateReceived (s : Sess) :
    (s.fsmUpdateReceived).st = (if s.st = .established then .established else .idle) := by
  unfold fsmUpdateReceived
  cases h : s.st <;> simp [h]

theorem st_fsmNotificationReceived (s : Sess) (e sub : Nat) : (s.fsmNotificationReceived e sub).st = .idle := by
  unfold fsmNotificationReceived
  split
  · cases h : s.st <;> simp [h]
  · split
    · simp
    · rename_i h; simpa using h

end Sess
end Yabgp
