/-
  Round trips and compositionality of the IPv4 flow specification NLRI (Model/Mp/Flowspec.lean).  The operator texts
  the code takes and returns are generated from structured values (`Expr`), from which the expected octets are computed
  as well.
-/
import Yabgp.Model.Mp.Flowspec
import Yabgp.Lemmas.EvfBytes
import Yabgp.Lemmas.ListCodec
import Yabgp.Lemmas.TextRt
import Yabgp.Lemmas.Agree

namespace Yabgp
open Yabgp.Text Yabgp.Flowspec

/-- `sep.join(xs)` -/
def joinWith (sep : Char) : List (List Char) → List Char
  | [] => []
  | [x] => x
  | x :: y :: r => x ++ sep :: joinWith sep (y :: r)

theorem splitAll_join (sep : Char) (xs : List (List Char)) (hne : xs ≠ []) (h : ∀ x ∈ xs, sep ∉ x) :
    splitAll sep (joinWith sep xs) = xs := by
  induction xs with
  | nil => exact absurd rfl hne
  | cons x r ih =>
    cases r with
    | nil => exact splitAll_single (h x (by simp))
    | cons y r' =>
      rw [joinWith, splitAll_append _ (h x (by simp)), ih (by simp) fun z hz => h z (by simp [hz])]

inductive Op where
  | eq | gt | lt | ge | le
  deriving DecidableEq, Repr

def Op.sym : Op → List Char
  | .eq => ['='] | .gt => ['>'] | .lt => ['<'] | .ge => ['>', '='] | .le => ['<', '=']
def Op.eqB : Op → Bool | .eq => true | .ge => true | .le => true | _ => false
def Op.gtB : Op → Bool | .gt => true | .ge => true | _ => false
def Op.ltB : Op → Bool | .lt => true | .le => true | _ => false
def Op.off : Op → Nat | .ge => 2 | .le => 2 | _ => 1

abbrev Item := Op × Nat
/-- a numeric match expression: OR (`|`) of AND-groups (`&`) of comparisons -/
abbrev Expr := List (List Item)

def itemText (it : Item) : List Char := it.1.sym ++ decStr it.2
def groupText (g : List Item) : List Char := joinWith '&' (g.map itemText)
/-- the text of an expression, e.g. `=254|>=254&<=300` -/
def exprText (e : Expr) : List Char := joinWith '|' (e.map groupText)

/-- non-empty OR of non-empty AND-groups, every value below 2^64 (1, 2, 4 or 8 octets) -/
def ExprOk (e : Expr) : Prop := e ≠ [] ∧ ∀ g ∈ e, g ≠ [] ∧ ∀ it ∈ g, it.2 < 18446744073709551616

instance : DecidablePred ExprOk := fun e => by unfold ExprOk; infer_instance

theorem hasSub2_of_not_mem (a b : Char) : ∀ {s : List Char}, a ∉ s → hasSub2 a b s = false
  | [], _ | [_], _ => rfl
  | x :: y :: r, h => by
    have hx : x ≠ a := fun e => h (by simp [e])
    simp [hasSub2, hx, hasSub2_of_not_mem a b (s := y :: r) fun hm => h (List.mem_cons_of_mem _ hm)]

theorem detectOp_item (op : Op) (v : Nat) :
    detectOp (itemText (op, v)) = some (op.off, op.eqB, op.gtB, op.ltB) ∧
    (itemText (op, v)).drop op.off = decStr v ∧ itemText (op, v) ≠ [] := by
  have hd := decStr_allDigits v
  obtain ⟨d, r, hdr⟩ := List.exists_cons_of_ne_nil (decStr_ne_nil v)
  rw [hdr] at hd
  have hgt : '>' ∉ d :: r := hd.not_mem (by decide)
  have hlt : '<' ∉ d :: r := hd.not_mem (by decide)
  have heq : '=' ∉ d :: r := hd.not_mem (by decide)
  have h1 := hasSub2_of_not_mem '>' '=' hgt
  have h2 := hasSub2_of_not_mem '<' '=' hlt
  simp only [List.mem_cons, not_or] at hgt hlt heq
  cases op <;>
    simp [itemText, Op.sym, Op.off, Op.eqB, Op.gtB, Op.ltB, detectOp, hdr, hasSub2, h1, h2, hgt, hlt, Ne.symm heq.1]

def widthOf (v : Nat) : Nat :=
  if v < 256 then 1 else if v < 65536 then 2 else if v < 4294967296 then 4 else 8

theorem valLen_ok {v : Nat} (h : v < 18446744073709551616) : valLen v = some (widthOf v) := by
  unfold valLen widthOf
  repeat' split
  all_goals rfl

/-- the operator octet: EOL, AND, length code, LT, GT, EQ -/
def flagNat (eol and : Bool) (n : Nat) (op : Op) : Nat :=
  128 * b2n eol + 64 * b2n and + lenCode n + 4 * b2n op.ltB + 2 * b2n op.gtB + b2n op.eqB

def encItem (eol and : Bool) (it : Item) : Bytes :=
  u8 (flagNat eol and (widthOf it.2) it.1) :: beN (widthOf it.2) it.2

/-- mirrors the inner loop: EOL on the last item of the last group, AND on every item but the first -/
def encGroup (lastOr first : Bool) : List Item → Bytes
  | [] => []
  | it :: r => encItem (lastOr && r.isEmpty) (!first) it ++ encGroup lastOr false r

def encExpr : Expr → Bytes
  | [] => []
  | g :: r => encGroup r.isEmpty true g ++ encExpr r

theorem coItem_item (eol and : Bool) (st : CoSt) (it : Item) (hv : it.2 < 18446744073709551616) :
    coItem eol and st (itemText it) = some { off := some it.1.off, out := st.out ++ encItem eol and it } := by
  obtain ⟨op, v⟩ := it
  obtain ⟨hdet, hdrop, hne⟩ := detectOp_item op v
  unfold coItem
  split
  · rename_i hh; exact absurd hh hne
  · simp only [hdet, hdrop, pyInt, parseDec_decStr, valLen_ok hv, encItem, flagNat]

theorem coAnd_group (lastOr : Bool) (g : List Item) (hg : ∀ it ∈ g, it.2 < 18446744073709551616) :
    ∀ (first : Bool) (st : CoSt),
      ∃ o, coAnd lastOr first st (g.map itemText) = some { off := o, out := st.out ++ encGroup lastOr first g } := by
  induction g with
  | nil => intro first st; exact ⟨st.off, by simp [coAnd, encGroup]⟩
  | cons it r ih =>
    intro first st
    simp only [List.map_cons, coAnd, List.isEmpty_map]
    rw [coItem_item _ _ st it (hg it (by simp))]
    simp only
    obtain ⟨o, ho⟩ := ih (fun x hx => hg x (by simp [hx])) false
      { off := some it.1.off, out := st.out ++ encItem (lastOr && r.isEmpty) (!first) it }
    exact ⟨o, by rw [ho]; simp [encGroup, List.append_assoc]⟩

theorem itemText_no (it : Item) : '&' ∉ itemText it ∧ '|' ∉ itemText it := by
  have h1 : '&' ∉ decStr it.2 := (decStr_allDigits _).not_mem (by decide)
  have h2 : '|' ∉ decStr it.2 := (decStr_allDigits _).not_mem (by decide)
  obtain ⟨op, v⟩ := it
  cases op <;> simpa [itemText, Op.sym] using ⟨h1, h2⟩

theorem joinWith_no (sep c : Char) (hc : c ≠ sep) : ∀ (xs : List (List Char)), (∀ x ∈ xs, c ∉ x) → c ∉ joinWith sep xs := by
  intro xs
  induction xs with
  | nil => intro _; simp [joinWith]
  | cons x r ih =>
    intro h
    cases r with
    | nil => simpa [joinWith] using h x (by simp)
    | cons y r' =>
      rw [joinWith]
      simp only [List.mem_append, List.mem_cons, not_or]
      exact ⟨h x (by simp), hc, ih (fun z hz => h z (by simp [hz]))⟩

theorem groupText_no_bar (g : List Item) : '|' ∉ groupText g :=
  joinWith_no '&' '|' (by decide) _ (List.forall_mem_map.mpr fun it _ => (itemText_no it).2)

theorem splitAll_groupText (g : List Item) (hne : g ≠ []) : splitAll '&' (groupText g) = g.map itemText :=
  splitAll_join _ _ (by simpa using hne) (List.forall_mem_map.mpr fun it _ => (itemText_no it).1)

theorem splitAll_exprText (e : Expr) (hne : e ≠ []) : splitAll '|' (exprText e) = e.map groupText :=
  splitAll_join _ _ (by simpa using hne) (List.forall_mem_map.mpr fun g _ => groupText_no_bar g)

theorem coOr_expr (e : Expr) (he : ∀ g ∈ e, g ≠ [] ∧ ∀ it ∈ g, it.2 < 18446744073709551616) :
    ∀ (st : CoSt), ∃ o, coOr st (e.map groupText) = some { off := o, out := st.out ++ encExpr e } := by
  induction e with
  | nil => intro st; exact ⟨st.off, by simp [coOr, encExpr]⟩
  | cons g r ih =>
    intro st
    obtain ⟨hgne, hg⟩ := he g (by simp)
    simp only [List.map_cons, coOr, List.isEmpty_map, splitAll_groupText g hgne]
    obtain ⟨o1, h1⟩ := coAnd_group r.isEmpty g hg true st
    rw [h1]
    simp only
    obtain ⟨o, ho⟩ := ih (fun x hx => he x (by simp [hx])) { off := o1, out := st.out ++ encGroup r.isEmpty true g }
    exact ⟨o, by rw [ho]; simp [encExpr, List.append_assoc]⟩

theorem constructOperators_expr (e : Expr) (h : ExprOk e) : constructOperators (exprText e) = some (encExpr e) := by
  obtain ⟨hne, he⟩ := h
  unfold constructOperators
  rw [splitAll_exprText e hne]
  obtain ⟨o, ho⟩ := coOr_expr e he { off := none, out := [] }
  rw [ho]
  simp

theorem widthOf_cases (v : Nat) : widthOf v = 1 ∨ widthOf v = 2 ∨ widthOf v = 4 ∨ widthOf v = 8 := by
  unfold widthOf; split
  · simp
  · split
    · simp
    · split <;> simp

theorem widthOf_fits {v : Nat} (h : v < 18446744073709551616) : v < 256 ^ widthOf v := by
  unfold widthOf
  split
  · omega
  · split
    · omega
    · split <;> omega

theorem flag_facts (eol and : Bool) (n : Nat) (op : Op) (hn : n = 1 ∨ n = 2 ∨ n = 4 ∨ n = 8) :
    flagNat eol and n op < 256 ∧ opLen (flagNat eol and n op) = n ∧
    bit (flagNat eol and n op) 7 = eol ∧ bit (flagNat eol and n op) 6 = and ∧
    bit (flagNat eol and n op) 1 = op.gtB ∧ bit (flagNat eol and n op) 2 = op.ltB ∧
    bit (flagNat eol and n op) 0 = op.eqB := by
  rcases hn with rfl | rfl | rfl | rfl <;> cases eol <;> cases and <;> cases op <;> decide

theorem parseOperators_nil : parseOperators [] = some ([], 1) := by rw [parseOperators]

theorem parseOperators_cons (f : UInt8) (rest : Bytes) :
    parseOperators (f :: rest) =
      match rest.take (opLen f.toNat) with
      | [] => none
      | v =>
        if bit f.toNat 7 then some ([(f.toNat, beVal v)], 1 + opLen f.toNat + 1)
        else
          match parseOperators (rest.drop (opLen f.toNat)) with
          | none => none
          | some (l, off) => some ((f.toNat, beVal v) :: l, 1 + opLen f.toNat + off) := by
  rw [parseOperators]
  cases List.take (opLen f.toNat) rest with
  | nil => rfl
  | cons x xs =>
    simp only
    split
    · rfl
    · cases parseOperators (List.drop (opLen f.toNat) rest) with
      | none => rfl
      | some p => rfl

theorem encItem_length (eol and : Bool) (it : Item) : (encItem eol and it).length = 1 + widthOf it.2 := by
  simp [encItem]; omega

theorem parseOperators_item (eol and : Bool) (it : Item) (hv : it.2 < 18446744073709551616) (T : Bytes) :
    parseOperators (encItem eol and it ++ T) =
      if eol then some ([(flagNat eol and (widthOf it.2) it.1, it.2)], 1 + widthOf it.2 + 1)
      else
        match parseOperators T with
        | none => none
        | some (l, off) => some ((flagNat eol and (widthOf it.2) it.1, it.2) :: l, 1 + widthOf it.2 + off) := by
  obtain ⟨hlt, hlen, heol, _⟩ := flag_facts eol and (widthOf it.2) it.1 (widthOf_cases it.2)
  have hpos : 0 < widthOf it.2 := by rcases widthOf_cases it.2 with h | h | h | h <;> omega
  simp only [encItem, List.cons_append]
  rw [parseOperators_cons, u8_toNat hlt, hlen, List.take_left' (beN_length _ _), List.drop_left' (beN_length _ _)]
  split
  · rename_i hh; exact absurd hh (beN_ne_nil hpos)
  · rw [heol, beVal_beN_of_lt (widthOf_fits hv)]

/-- (operator octet, value) pairs `parse_operators` returns for an expression -/
def pairsGroup (lastOr first : Bool) : List Item → List (Nat × Nat)
  | [] => []
  | it :: r => (flagNat (lastOr && r.isEmpty) (!first) (widthOf it.2) it.1, it.2) :: pairsGroup lastOr false r

def pairsExpr : Expr → List (Nat × Nat)
  | [] => []
  | g :: r => pairsGroup r.isEmpty true g ++ pairsExpr r

theorem parseOperators_group_more (g : List Item) (hg : ∀ it ∈ g, it.2 < 18446744073709551616) (T : Bytes) :
    ∀ first : Bool,
    parseOperators (encGroup false first g ++ T) =
      match parseOperators T with
      | none => none
      | some (l, off) => some (pairsGroup false first g ++ l, (encGroup false first g).length + off) := by
  induction g with
  | nil => intro first; simp only [encGroup, pairsGroup, List.nil_append, List.length_nil, Nat.zero_add]
           cases parseOperators T with
           | none => rfl
           | some p => rfl
  | cons it r ih =>
    intro first
    simp only [encGroup, Bool.false_and, List.append_assoc]
    rw [parseOperators_item _ _ it (hg it (by simp)), if_neg Bool.false_ne_true, ih (fun x hx => hg x (by simp [hx])) false]
    cases parseOperators T with
    | none => rfl
    | some p =>
      obtain ⟨l, off⟩ := p
      simp only [pairsGroup, Bool.false_and, List.cons_append, List.length_append, encItem_length]
      congr 2
      omega

theorem parseOperators_group_last (g : List Item) (hg : ∀ it ∈ g, it.2 < 18446744073709551616) (hne : g ≠ [])
    (T : Bytes) : ∀ first : Bool,
    parseOperators (encGroup true first g ++ T) =
      some (pairsGroup true first g, (encGroup true first g).length + 1) := by
  induction g with
  | nil => exact absurd rfl hne
  | cons it r ih =>
    intro first
    cases r with
    | nil =>
      simp only [encGroup, List.isEmpty_nil, Bool.and_self, List.append_nil, pairsGroup]
      rw [parseOperators_item _ _ it (hg it (by simp)), if_pos rfl]
      simp [encItem_length]
    | cons it' r' =>
      simp only [encGroup, List.isEmpty_cons, Bool.and_false, List.append_assoc]
      rw [parseOperators_item _ _ it (hg it (by simp)), if_neg Bool.false_ne_true]
      have := ih (fun x hx => hg x (by simp [hx])) (by simp) false
      simp only [encGroup, List.append_assoc] at this
      rw [this]
      simp only [pairsGroup, List.isEmpty_cons, Bool.and_false, List.length_append, encItem_length]
      rfl

theorem parseOperators_expr (e : Expr) (h : ExprOk e) (T : Bytes) :
    parseOperators (encExpr e ++ T) = some (pairsExpr e, (encExpr e).length + 1) := by
  obtain ⟨hne, he⟩ := h
  induction e with
  | nil => exact absurd rfl hne
  | cons g r ih =>
    obtain ⟨hgne, hg⟩ := he g (by simp)
    cases r with
    | nil =>
      simp only [encExpr, List.isEmpty_nil, List.append_nil, pairsExpr]
      exact parseOperators_group_last g hg hgne T true
    | cons g' r' =>
      simp only [encExpr, List.isEmpty_cons, List.append_assoc]
      rw [parseOperators_group_more g hg _ true]
      have := ih (by simp) (fun x hx => he x (by simp [hx]))
      simp only [encExpr, List.append_assoc] at this
      rw [this]
      simp only [pairsExpr, List.isEmpty_cons, List.length_append]
      rfl

theorem itemStr_flag (acc : List Char) (eol and : Bool) (it : Item) :
    itemStr acc (flagNat eol and (widthOf it.2) it.1) it.2 =
      acc ++ (if and then ['&'] else if acc ≠ [] then ['|'] else []) ++ itemText it := by
  obtain ⟨_, _, _, hand, hgt, hlt, heq⟩ := flag_facts eol and (widthOf it.2) it.1 (widthOf_cases it.2)
  obtain ⟨op, v⟩ := it
  simp only [itemStr, hand, hgt, hlt, heq, itemText]
  cases op <;> simp [Op.gtB, Op.ltB, Op.eqB, Op.sym]

theorem joinWith_cons (sep : Char) (xs : List (List Char)) :
    ∀ x, joinWith sep (x :: xs) = x ++ xs.flatMap (sep :: ·) := by
  induction xs with
  | nil => intro x; simp [joinWith]
  | cons y r ih => intro x; rw [joinWith, ih y]; simp

theorem opsToStr_group_tail (lastOr : Bool) (r : List Item) :
    ∀ (acc : List Char) (L : List (Nat × Nat)),
      opsToStr acc (pairsGroup lastOr false r ++ L) = opsToStr (acc ++ (r.map itemText).flatMap ('&' :: ·)) L := by
  induction r with
  | nil => intro acc L; simp [pairsGroup]
  | cons it r ih =>
    intro acc L
    simp only [pairsGroup, List.cons_append, opsToStr, Bool.not_false, itemStr_flag, ↓reduceIte]
    rw [ih]
    simp [List.append_assoc]

theorem opsToStr_group (lastOr : Bool) (it : Item) (r : List Item) (acc : List Char) (L : List (Nat × Nat)) :
    opsToStr acc (pairsGroup lastOr true (it :: r) ++ L) =
      opsToStr (acc ++ (if acc ≠ [] then ['|'] else []) ++ groupText (it :: r)) L := by
  simp only [pairsGroup, List.cons_append, opsToStr, Bool.not_true, itemStr_flag, Bool.false_eq_true, ↓reduceIte]
  rw [opsToStr_group_tail]
  simp [groupText, joinWith_cons, List.append_assoc]

theorem itemText_ne_nil (it : Item) : itemText it ≠ [] := (detectOp_item it.1 it.2).2.2

theorem groupText_ne_nil (g : List Item) (h : g ≠ []) : groupText g ≠ [] := by
  cases g with
  | nil => exact absurd rfl h
  | cons it r =>
    simp only [groupText, List.map_cons, joinWith_cons]
    intro hh
    have := List.append_eq_nil_iff.mp hh
    exact itemText_ne_nil it this.1

theorem opsToStr_expr_tail (e : Expr) (he : ∀ g ∈ e, g ≠ []) :
    ∀ acc : List Char, acc ≠ [] → opsToStr acc (pairsExpr e) = acc ++ (e.map groupText).flatMap ('|' :: ·) := by
  induction e with
  | nil => intro acc _; simp [pairsExpr, opsToStr]
  | cons g r ih =>
    intro acc hacc
    obtain ⟨it, g', rfl⟩ := List.exists_cons_of_ne_nil (he g (by simp))
    simp only [pairsExpr]
    rw [opsToStr_group, ih (fun x hx => he x (by simp [hx]))]
    · simp [hacc, List.append_assoc]
    · simp [hacc]

/-- `operator_dict_to_str` of what `parse_operators` returns is the text the expression was written from -/
theorem opsToStr_expr (e : Expr) (h : ExprOk e) : opsToStr [] (pairsExpr e) = exprText e := by
  obtain ⟨hne, he⟩ := h
  obtain ⟨g, r, rfl⟩ := List.exists_cons_of_ne_nil hne
  obtain ⟨it, g', rfl⟩ := List.exists_cons_of_ne_nil (he (g) (by simp)).1
  simp only [pairsExpr]
  rw [opsToStr_group]
  simp only [ne_eq, not_true_eq_false, ↓reduceIte, List.append_nil, List.nil_append]
  rw [opsToStr_expr_tail r (fun x hx => (he x (by simp [hx])).1) _ (groupText_ne_nil _ (by simp))]
  simp [exprText, joinWith_cons]

/-- a prefix whose address has nothing beyond the `ceil(len/8)` octets that are sent
    (every prefix in network form - host bits zero - is of this kind) -/
def FsPfxOk (a l : Nat) : Prop := l ≤ 32 ∧ a < 4294967296 ∧ a % 256 ^ (4 - (l + 7) / 8) = 0

instance (a l : Nat) : Decidable (FsPfxOk a l) := by unfold FsPfxOk; infer_instance

theorem netform_FsPfxOk {a l : Nat} (hl : l ≤ 32) (ha : a < 4294967296) (hn : a % 2 ^ (32 - l) = 0) : FsPfxOk a l :=
  ⟨hl, ha, mod_octets_of_network (m := 4) hn⟩

theorem addr4_eq_beVal : ∀ b : Bytes, b.length ≤ 4 → addr4 b = beVal b * 256 ^ (4 - b.length)
  | [], _ => rfl
  | [_], _ | [_, _], _ | [_, _, _], _ | [_, _, _, _], _ => by
    simp only [addr4, beVal, List.getD_cons_zero, List.getD_cons_succ, List.getD_nil, List.foldl_cons, List.foldl_nil,
      UInt8.toNat_zero, List.length_cons, List.length_nil]
    omega

theorem addr4_take_be32 {a k : Nat} (hk : k ≤ 4) (ha : a < 256 ^ 4) (hz : a % 256 ^ (4 - k) = 0) :
    addr4 ((be32 a).take k) = a := by
  have hlen : ((be32 a).take k).length = k := by rw [List.length_take, be32_length]; exact Nat.min_eq_left hk
  rw [addr4_eq_beVal _ (by omega), hlen, be32_beN, beVal_take_mul hk ha hz]

theorem parsePrefix_enc (a l : Nat) (rest : Bytes) (h : FsPfxOk a l) :
    constructPrefix a l = some (u8 l :: (be32 a).take (pfxKeep l)) ∧
    ((be32 a).take (pfxKeep l)).length = pfxKeep l ∧
    parsePrefix (u8 l :: ((be32 a).take (pfxKeep l) ++ rest)) = some (.pfx a l, pfxKeep l + 1) := by
  obtain ⟨hl, ha, hz⟩ := h
  have hk : pfxKeep l = (l + 7) / 8 := pfxKeep_eq hl
  have hlen : ((be32 a).take (pfxKeep l)).length = pfxKeep l := by rw [List.length_take, be32_length]; omega
  refine ⟨by rw [constructPrefix, if_pos ⟨ha, by omega⟩], hlen, ?_⟩
  rw [parsePrefix, u8_toNat (by omega), ← hk, List.take_left' hlen, addr4_take_be32 (by omega) ha (hk ▸ hz)]

theorem parseRule_nil (acc : Rule) : parseRule acc [] = some acc := by rw [parseRule]

theorem parseRule_cons (acc : Rule) (t : UInt8) (rest : Bytes) :
    parseRule acc (t :: rest) =
      match parseComp t.toNat rest with
      | none => none
      | some (c, n) => parseRule (dictSet acc t.toNat c) (rest.drop n) := by
  rw [parseRule]
  cases parseComp t.toNat rest with
  | none => rfl
  | some p => rfl

theorem parseRule_comp (acc : Rule) (t : Nat) (ht : t < 256) (body rest : Bytes) (c : Comp)
    (h : parseComp t (body ++ rest) = some (c, body.length)) :
    parseRule acc (u8 t :: (body ++ rest)) = parseRule (dictSet acc t c) rest := by
  rw [parseRule_cons, u8_toNat ht, h]
  simp

inductive SComp where
  | pfx (a l : Nat)
  | expr (e : Expr)
  deriving DecidableEq, Repr

def SComp.toComp : SComp → Comp
  | .pfx a l => .pfx a l
  | .expr e => .ops (exprText e)

abbrev SRule := List (Nat × SComp)

def SRule.toRule (r : SRule) : Rule := r.map fun kv => (kv.1, kv.2.toComp)

/-- component types 1, 2 carry prefixes; 3, 4, 5, 6, 7, 8, 10, 11 carry numeric expressions -/
def SCompOk (t : Nat) : SComp → Prop
  | .pfx a l => t ∈ pfxTypes ∧ FsPfxOk a l
  | .expr e => t ∈ opTypes ∧ ExprOk e

instance (t : Nat) : DecidablePred (SCompOk t) := fun c => by cases c <;> unfold SCompOk <;> infer_instance

/-- the value space of C07 for one flow specification: distinct component types, every value in range -/
def SRuleOk (r : SRule) : Prop := (r.map (·.1)).Nodup ∧ ∀ kv ∈ r, SCompOk kv.1 kv.2

instance : DecidablePred SRuleOk := fun r => by unfold SRuleOk; infer_instance

def allTypes : List Nat := [1, 2, 3, 4, 5, 6, 7, 8, 10, 11]

/-- what `construct_nlri` writes for one component type -/
def constructComp (d : Rule) (t : Nat) : Option Bytes :=
  if t ∈ pfxTypes then constructPfxComp d t else constructOpComp d t

theorem constructRuleBody_eq (d : Rule) : constructRuleBody d = concatOpt (allTypes.map (constructComp d)) := by
  simp [constructRuleBody, allTypes, pfxTypes, opTypes, constructComp]

theorem exprText_ne_nil (e : Expr) (h : ExprOk e) : exprText e ≠ [] := by
  obtain ⟨hne, he⟩ := h
  obtain ⟨g, r, rfl⟩ := List.exists_cons_of_ne_nil hne
  simp only [exprText, List.map_cons, joinWith_cons]
  intro hh
  exact groupText_ne_nil g (he g (by simp)).1 (List.append_eq_nil_iff.mp hh).1

def slookup : SRule → Nat → Option SComp
  | [], _ => none
  | (k, v) :: r, t => if k = t then some v else slookup r t

theorem dictGet_toRule_eq (r : SRule) (t : Nat) : dictGet r.toRule t = (slookup r t).map SComp.toComp := by
  induction r with
  | nil => rfl
  | cons kv r ih =>
    obtain ⟨k, sc⟩ := kv
    simp only [SRule.toRule, List.map_cons, dictGet, slookup]
    split
    · rfl
    · exact ih

theorem slookup_mem (r : SRule) (t : Nat) (sc : SComp) (h : slookup r t = some sc) : (t, sc) ∈ r := by
  induction r with
  | nil => simp [slookup] at h
  | cons kv r ih =>
    obtain ⟨k, v⟩ := kv
    simp only [slookup] at h
    split at h
    · rename_i hk; simp only [Option.some.injEq] at h; simp [← hk, h]
    · simp [ih h]

theorem scompOk_allTypes {t : Nat} {sc : SComp} (h : SCompOk t sc) : t ∈ allTypes := by
  show t ∈ pfxTypes ++ opTypes
  cases sc with
  | pfx a l => exact List.mem_append_left _ h.1
  | expr e => exact List.mem_append_right _ h.1

def compBytes (r : SRule) (t : Nat) : Bytes :=
  match slookup r t with
  | none => []
  | some (.pfx a l) => u8 t :: u8 l :: (be32 a).take (pfxKeep l)
  | some (.expr e) => u8 t :: encExpr e

theorem comp_rt (r : SRule) (hok : SRuleOk r) (t : Nat) (ht : t ∈ allTypes) :
    constructComp r.toRule t = some (compBytes r t) ∧
    ∀ acc rest, parseRule acc (compBytes r t ++ rest) =
      parseRule (match dictGet r.toRule t with | some c => dictSet acc t c | none => acc) rest := by
  have ht256 : t < 256 := by
    simp only [allTypes, List.mem_cons, List.not_mem_nil, or_false] at ht
    omega
  have hg := dictGet_toRule_eq r t
  cases hs : slookup r t with
  | none =>
    rw [hs] at hg
    simp only [Option.map_none] at hg
    refine ⟨?_, fun acc rest => by simp [compBytes, hs, hg]⟩
    unfold constructComp constructPfxComp constructOpComp
    simp [hg, compBytes, hs]
  | some sc =>
    rw [hs] at hg
    simp only [Option.map_some] at hg
    have hsc := hok.2 (t, sc) (slookup_mem r t sc hs)
    cases sc with
    | pfx a l =>
      obtain ⟨htp, hp⟩ := hsc
      obtain ⟨hcp, hlen, _⟩ := parsePrefix_enc a l [] hp
      refine ⟨?_, ?_⟩
      · simp [constructComp, htp, constructPfxComp, hg, SComp.toComp, hcp, compBytes, hs]
      · intro acc rest
        simp only [compBytes, hs, hg, SComp.toComp, List.cons_append]
        have := parseRule_comp acc t ht256 (u8 l :: (be32 a).take (pfxKeep l)) rest (.pfx a l)
        simp only [List.cons_append] at this
        apply this
        have htt : t = 1 ∨ t = 2 := by simpa [pfxTypes] using htp
        have := (parsePrefix_enc a l rest hp).2.2
        simp only [parseComp, htt, ↓reduceIte, this, List.length_cons, hlen]
    | expr e =>
      obtain ⟨hto, he⟩ := hsc
      have hnp : t ∉ pfxTypes := by
        simp only [opTypes, List.mem_cons, List.not_mem_nil, or_false] at hto
        simp only [pfxTypes, List.mem_cons, List.not_mem_nil, or_false]
        omega
      have htt : ¬ (t = 1 ∨ t = 2) := by simpa [pfxTypes] using hnp
      refine ⟨?_, ?_⟩
      · obtain ⟨x, xs, hx⟩ := List.exists_cons_of_ne_nil (exprText_ne_nil e he)
        simp only [constructComp, hnp, ↓reduceIte, constructOpComp, hg, SComp.toComp, compBytes, hs]
        rw [hx]
        simp only
        rw [← hx, constructOperators_expr e he]
        rfl
      · intro acc rest
        simp only [compBytes, hs, hg, SComp.toComp, List.cons_append]
        apply parseRule_comp acc t ht256
        simp only [parseComp, htt, ↓reduceIte, parseOperators_expr e he rest, opsToStr_expr e he,
          Nat.add_sub_cancel]

/-- what the decoder's dict looks like after the components of the types `ts` (in that order) -/
def collect (d : Rule) (acc : Rule) : List Nat → Rule
  | [] => acc
  | t :: ts =>
    match dictGet d t with
    | some c => collect d (dictSet acc t c) ts
    | none => collect d acc ts

/-- the dict `IPv4FlowSpec.parse` rebuilds from a constructed flow specification: the components in the
    order `construct_nlri` writes them -/
def ordered (d : Rule) : Rule := collect d [] allTypes

theorem walk_rt (r : SRule) (hok : SRuleOk r) (ts : List Nat) (hts : ∀ t ∈ ts, t ∈ allTypes) :
    concatOpt (ts.map (constructComp r.toRule)) = some (ts.flatMap (compBytes r)) ∧
      ∀ acc rest, parseRule acc (ts.flatMap (compBytes r) ++ rest) = parseRule (collect r.toRule acc ts) rest := by
  induction ts with
  | nil => exact ⟨rfl, fun acc rest => rfl⟩
  | cons t ts ih =>
    obtain ⟨hw2, hp2⟩ := ih (fun x hx => hts x (by simp [hx]))
    obtain ⟨hc, hp⟩ := comp_rt r hok t (hts t (by simp))
    refine ⟨by simp [concatOpt, hc, hw2], fun acc rest => ?_⟩
    simp only [List.flatMap_cons, List.append_assoc, collect]
    rw [hp, hp2]
    cases dictGet r.toRule t <;> rfl

theorem dictGet_dictSet (d : Rule) (k k' : Nat) (v : Comp) :
    dictGet (dictSet d k v) k' = if k = k' then some v else dictGet d k' := by
  induction d with
  | nil => rfl
  | cons e r ih =>
    obtain ⟨k0, v0⟩ := e
    rw [dictSet]
    by_cases h0 : k0 = k
    · subst h0; by_cases h1 : k0 = k' <;> simp [dictGet, h1]
    · by_cases h1 : k0 = k'
      · subst h1; simp [dictGet, h0, Ne.symm h0]
      · simp [dictGet, ih, h0, h1]

theorem dictGet_collect (d : Rule) (ts : List Nat) :
    ∀ (acc : Rule) (t : Nat),
      dictGet (collect d acc ts) t = if t ∈ ts then (dictGet d t).or (dictGet acc t) else dictGet acc t := by
  induction ts with
  | nil => intro acc t; rfl
  | cons x ts ih =>
    intro acc t
    rw [collect]
    by_cases h : x = t
    · subst h
      cases hx : dictGet d x <;> simp [ih, hx, dictGet_dictSet]
    · cases hx : dictGet d x <;> simp [ih, dictGet_dictSet, h, Ne.symm h]

def ruleBytes (r : SRule) : Bytes := allTypes.flatMap (compBytes r)

theorem rule_rt (r : SRule) (hok : SRuleOk r) :
    constructRuleBody r.toRule = some (ruleBytes r) ∧
      (∀ acc rest, parseRule acc (ruleBytes r ++ rest) = parseRule (collect r.toRule acc allTypes) rest) ∧
      parseRule [] (ruleBytes r) = some (ordered r.toRule) ∧
      ∀ t, dictGet (ordered r.toRule) t = dictGet r.toRule t := by
  obtain ⟨hb, hp⟩ := walk_rt r hok allTypes (fun t ht => ht)
  refine ⟨by rw [constructRuleBody_eq]; exact hb, hp, ?_, ?_⟩
  · have := hp [] []
    simp only [List.append_nil, parseRule_nil] at this
    exact this
  · intro t
    simp only [ordered, dictGet_collect, dictGet]
    by_cases ht : t ∈ allTypes
    · rw [if_pos ht, Option.or_none]
    · -- a key outside `allTypes` is not a key of an in-range flow specification
      rw [if_neg ht, dictGet_toRule_eq]
      cases hs : slookup r t with
      | none => rfl
      | some sc => exact absurd (scompOk_allTypes (hok.2 _ (slookup_mem r t sc hs))) ht

theorem dictSet_ne_nil (d : Rule) (k : Nat) (v : Comp) : dictSet d k v ≠ [] := by
  cases d with
  | nil => simp [dictSet]
  | cons e r => obtain ⟨k0, v0⟩ := e; simp only [dictSet]; split <;> simp

theorem collect_ne_nil (d : Rule) (ts : List Nat) : ∀ acc, acc ≠ [] → collect d acc ts ≠ [] := by
  induction ts with
  | nil => intro acc h; exact h
  | cons t ts ih =>
    intro acc h
    simp only [collect]
    cases dictGet d t with
    | none => exact ih acc h
    | some c => exact ih _ (dictSet_ne_nil acc t c)

theorem ordered_ne_nil (r : SRule) (hok : SRuleOk r) (hne : r ≠ []) : ordered r.toRule ≠ [] := by
  obtain ⟨kv, r', rfl⟩ := List.exists_cons_of_ne_nil hne
  obtain ⟨k, sc⟩ := kv
  have hk : dictGet (SRule.toRule ((k, sc) :: r')) k = some sc.toComp := by simp [SRule.toRule, dictGet]
  obtain ⟨_, _, _, hget⟩ := rule_rt _ hok
  intro hh
  have := hget k
  rw [hh, hk] at this
  simp [dictGet] at this

theorem parseRules_nil : parseRules [] = some [] := by rw [parseRules]

theorem parseRules_short (l : UInt8) (rest : Bytes) (h : ¬ (l.toNat / 16 = 15 ∧ (l :: rest).length > 2)) :
    parseRules (l :: rest) =
      match parseRule [] (rest.take l.toNat) with
      | none => none
      | some d =>
        match parseRules (rest.drop l.toNat) with
        | none => none
        | some ds => some (if d = [] then ds else d :: ds) := by
  rw [parseRules.eq_def]
  simp only
  rw [if_neg h]
  rfl

theorem parseRules_long (l l2 : UInt8) (rest2 : Bytes) (h : l.toNat / 16 = 15 ∧ (l :: l2 :: rest2).length > 2) :
    parseRules (l :: l2 :: rest2) =
      match parseRule [] (rest2.take ((l.toNat * 256 + l2.toNat) % 4096)) with
      | none => none
      | some d =>
        match parseRules (rest2.drop ((l.toNat * 256 + l2.toNat) % 4096)) with
        | none => none
        | some ds => some (if d = [] then ds else d :: ds) := by
  rw [parseRules.eq_def]
  simp only
  rw [if_pos h]
  rfl

/-- the octets expected on the wire for a flow specification with its length field: one octet below 240,
    else two octets `0xfnnn` -/
def nlriBytes (r : SRule) : Bytes :=
  if (ruleBytes r).length ≥ 240 then be16 (61440 + (ruleBytes r).length) ++ ruleBytes r
  else u8 (ruleBytes r).length :: ruleBytes r

theorem nlriBytes_ne_nil (r : SRule) : nlriBytes r ≠ [] := by
  unfold nlriBytes; split <;> simp [be16]

/-- the value space of C07 for one flow specification inside an attribute: in range, at least one component,
    and it fits the 12-bit extended length -/
def FsOk (r : SRule) : Prop := SRuleOk r ∧ r ≠ [] ∧ (ruleBytes r).length < 4096

instance : DecidablePred FsOk := fun r => by unfold FsOk; infer_instance

theorem ruleBytes_ne_nil (r : SRule) (hok : SRuleOk r) (hne : r ≠ []) : ruleBytes r ≠ [] := by
  intro hh
  obtain ⟨_, _, hp, _⟩ := rule_rt r hok
  rw [hh, parseRule_nil] at hp
  exact ordered_ne_nil r hok hne (by simpa using hp.symm)

theorem constructNlri_ok (r : SRule) (h : FsOk r) : constructNlri r.toRule = some (some (nlriBytes r)) := by
  obtain ⟨hok, hne, hlen⟩ := h
  obtain ⟨hb, _⟩ := rule_rt r hok
  obtain ⟨x, xs, hx⟩ := List.exists_cons_of_ne_nil (ruleBytes_ne_nil r hok hne)
  unfold constructNlri nlriBytes
  rw [hb, hx]
  simp only
  rw [← hx]
  split
  · rw [if_pos (by omega)]
  · rfl

theorem parseRules_rule (r : SRule) (h : FsOk r) (rest : Bytes) :
    parseRules (nlriBytes r ++ rest) = (parseRules rest).map (ordered r.toRule :: ·) := by
  obtain ⟨hok, hne, h4096⟩ := h
  obtain ⟨_, _, hpb, _⟩ := rule_rt r hok
  have hone : ordered r.toRule ≠ [] := ordered_ne_nil r hok hne
  obtain ⟨x, xs, hx⟩ := List.exists_cons_of_ne_nil (ruleBytes_ne_nil r hok hne)
  unfold nlriBytes
  rw [hx] at hpb h4096 ⊢
  have e1 : (x :: (xs ++ rest)).take (x :: xs).length = x :: xs := List.take_left' (l₁ := x :: xs) rfl
  have e2 : (x :: (xs ++ rest)).drop (x :: xs).length = rest := List.drop_left' (l₁ := x :: xs) rfl
  have hfin : ∀ o : Option (List Rule), (match o with
      | none => none
      | some ds => some (if ordered r.toRule = [] then ds else ordered r.toRule :: ds)) =
        o.map (ordered r.toRule :: ·) := by
    intro o; cases o <;> simp [hone]
  split
  · -- two-octet length 0xfnnn: the high nibble is all ones, the low twelve bits are the length
    simp only [be16, List.cons_append, List.nil_append]
    have h1 : (u8 ((61440 + (x :: xs).length) / 256)).toNat / 16 = 15 := by rw [u8_toNat_mod]; omega
    rw [parseRules_long _ _ _ ⟨h1, by simp⟩, be16_val (by omega),
      show (61440 + (x :: xs).length) % 4096 = (x :: xs).length by omega, e1, e2, hpb]
    exact hfin _
  · simp only [List.cons_append]
    have h1 : (u8 (x :: xs).length).toNat = (x :: xs).length := u8_toNat (by omega)
    rw [parseRules_short _ _ (by rw [h1]; omega), h1, e1, e2, hpb]
    exact hfin _

theorem constructRules_ok (rs : List SRule) (h : ∀ r ∈ rs, FsOk r) :
    constructRules (rs.map SRule.toRule) = some (rs.flatMap nlriBytes) := by
  induction rs with
  | nil => rfl
  | cons r rs ih =>
    simp only [List.map_cons, constructRules, constructNlri_ok r (h r (by simp)),
      ih (fun q hq => h q (by simp [hq])), List.flatMap_cons]

theorem parseRules_list (rs : List SRule) (h : ∀ r ∈ rs, FsOk r) (rest : Bytes) :
    parseRules (rs.flatMap nlriBytes ++ rest) = (parseRules rest).map (rs.map (fun r => ordered r.toRule) ++ ·) :=
  decode_flatMap parseRules nlriBytes (fun r => ordered r.toRule) rs (fun r hr => parseRules_rule r (h r hr)) rest

end Yabgp

