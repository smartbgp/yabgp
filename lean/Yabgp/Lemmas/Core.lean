/-
  The control skeleton of the session model: FSM state, which of the two reconnection timers are armed, the
  automatic-start flag, the tracked / established protocol references, the connection attempt the peering
  remembers (`pending`) and, per connection, its reactor phase and BGP.disconnected.  `core : Sess → Core` forgets everything else; every action of the model is shown to
  act on the skeleton as a small function `…C` (a refinement: `core (f s) = fC (core s)`), or - where the
  reaction depends on data the skeleton forgets (message contents, configuration) - to produce one of finitely
  many skeleton outcomes.  Invariants about control (C02, C12) are then proved on the skeleton.
-/
import Yabgp.Lemmas.Framing
import Yabgp.Lemmas.StLemmas
import Yabgp.Lemmas.TmLemmas

namespace Yabgp

structure Core where
  st : St
  retry : Bool
  idleHold : Bool
  allow : Bool
  proto : Option Nat
  estab : Option Nat
  pending : Option Nat
  conns : List (Phase × Bool)
  deriving DecidableEq, Repr

def pd (c : Conn) : Phase × Bool := (c.phase, c.disconnected)

def core (s : Sess) : Core :=
  { st := s.st, retry := s.tm.retry.isSome, idleHold := s.tm.idleHold.isSome, allow := s.allowAuto,
    proto := s.proto, estab := s.estab, pending := s.pending, conns := s.conns.map pd }

namespace Core

def conn (c : Core) (i : Nat) : Phase × Bool := c.conns.getD i (.connecting, false)

/-! setters mirroring the ones of `Sess`, so that every skeleton action is the same composition as the action it abstracts -/
def setRetry (c : Core) (b : Bool) : Core := { c with retry := b }
def setIdleHold (c : Core) (b : Bool) : Core := { c with idleHold := b }
def withTm (c : Core) (r i : Bool) : Core := { c with retry := r, idleHold := i }
def withSt (c : Core) (v : St) : Core := { c with st := v }
def withAllow (c : Core) (v : Bool) : Core := { c with allow := v }
def withProto (c : Core) (v : Option Nat) : Core := { c with proto := v }
def withEstab (c : Core) (v : Option Nat) : Core := { c with estab := v }
def withPending (c : Core) (v : Option Nat) : Core := { c with pending := v }
def setPhase (c : Core) (i : Nat) (p : Phase) : Core := { c with conns := c.conns.set i (p, (c.conn i).2) }

def closeOn (c : Core) (i : Nat) : Core :=
  if (c.conn i).1 = .connected ∨ (c.conn i).1 = .closing then { c with conns := c.conns.set i (.closing, true) } else c

def closeConn (c : Core) : Core :=
  match c.proto with
  | none => c
  | some i => c.closeOn i

def errorClose (c : Core) : Core := ((c.withTm false true).closeConn).withSt .idle

def abortPending (c : Core) : Core :=
  match c.pending with
  | none => c
  | some j => if (c.conn j).1 = .connecting then (c.withPending none).setPhase j .closed else c.withPending none

def connectTcp (c : Core) : Core :=
  if c.abortPending.st ≠ .established then
    { c.abortPending with conns := c.abortPending.conns ++ [(.connecting, false)], pending := some c.abortPending.conns.length }
  else c.abortPending

def autoStart (c : Core) (idle : Bool) : Core :=
  if c.st = .idle then
    if idle then c.setIdleHold true
    else if c.allow then ((c.setRetry true).withSt .connect).connectTcp
    else c
  else c

def dropEstab (c : Core) (pro : Option Nat) : Core :=
  match pro with
  | some p => if c.estab = some p then (c.withEstab none).withSt .idle else c
  | none => c

def connectionClosed (c : Core) (pro : Option Nat) : Core :=
  if (c.dropEstab pro).allow then (c.dropEstab pro).autoStart true else c.dropEstab pro

def connectionFailed (c : Core) : Core :=
  match c.st with
  | .connect => (((c.setRetry false).closeConn).withSt .idle).connectionClosed c.proto
  | .active => (c.setRetry true).withSt .idle
  | .openSent => (((c.closeConn).setRetry true).withSt .active).connectionClosed c.proto
  | .openConfirm => c.errorClose
  | .established => c.errorClose
  | .idle => c

def manualStart (c : Core) : Core :=
  match c.st with
  | .established => c
  | .idle => (((c.withAllow true).setRetry true).withSt .connect).connectTcp
  | _ => c

def manualStop (c : Core) : Core := ((((c.withTm false false).closeConn).withAllow false).withSt .idle).abortPending

/-- connectTCP succeeded; `sent` = BGP.send_open went through -/
def connOk (c : Core) (i : Nat) (sent : Bool) : Core :=
  if sent then ((((((c.setPhase i .connected).withProto (some i)).withSt .connect).withEstab (some i)).setRetry false).setIdleHold false).withSt .openSent
  else (((((c.setPhase i .connected).withProto (some i)).withSt .connect).withEstab (some i)).setRetry false).setIdleHold false

def connFail (c : Core) (i : Nat) : Core :=
  if c.pending = some i then ((c.withPending none).setPhase i .closed).connectionFailed else c.setPhase i .closed

def connLost (c : Core) (i : Nat) : Core :=
  if (c.conn i).2 then (c.setPhase i .closed).connectionClosed (some i) else (c.setPhase i .closed).connectionFailed

def fireRetry (c : Core) : Core :=
  match c.st with
  | .connect | .active => (((c.setRetry false).closeConn).setRetry true).connectTcp
  | .idle => c.setRetry false
  | _ => (c.setRetry false).errorClose

def fireHold (c : Core) : Core :=
  match c.st with
  | .openSent | .openConfirm | .established => ((c.setRetry false).errorClose).withSt .idle
  | .connect | .active => c.errorClose
  | .idle => c

def fireKeepalive (c : Core) : Core :=
  match c.st with
  | .connect | .active => c.errorClose
  | _ => c

def fireIdleHold (c : Core) : Core :=
  if c.st = .idle then (c.setIdleHold false).autoStart false else c.setIdleHold false

def fsmOpenReceived (c : Core) : Core :=
  match c.st with
  | .connect | .active => c.errorClose
  | .openSent => (c.setRetry false).withSt .openConfirm
  | .openConfirm | .established => c.errorClose
  | .idle => c

def fsmKeepaliveReceived (c : Core) : Core :=
  match c.st with
  | .openConfirm => c.withSt .established
  | .established => c
  | .connect | .active | .openSent => c.errorClose
  | .idle => c

def fsmUpdateReceived (c : Core) : Core :=
  match c.st with
  | .established => c
  | .connect | .active | .openSent | .openConfirm => c.errorClose
  | .idle => c

def fsmNotificationReceived (c : Core) (ver : Bool) : Core :=
  if ver then
    match c.st with
    | .openSent | .openConfirm => ((c.setRetry false).closeConn).withSt .idle
    | .connect | .active | .established => c.errorClose
    | .idle => c
  else if c.st ≠ .idle then c.errorClose else c

def frameOutcomes (c : Core) : List Core :=
  [c, c.errorClose, c.fsmOpenReceived, c.fsmKeepaliveReceived, c.fsmUpdateReceived,
   c.fsmNotificationReceived true, c.fsmNotificationReceived false]

theorem mem_frameOutcomes {c o : Core} : o ∈ c.frameOutcomes ↔
    o = c ∨ o = c.errorClose ∨ o = c.fsmOpenReceived ∨ o = c.fsmKeepaliveReceived ∨ o = c.fsmUpdateReceived ∨
    o = c.fsmNotificationReceived true ∨ o = c.fsmNotificationReceived false := by
  simp only [frameOutcomes, List.mem_cons, List.not_mem_nil, or_false]

/-- The kinds of frame outcome: nothing, a move forward inside the session states, the error close, and the close
    after NOTIFICATION "unsupported version" (which arms no idle-hold timer: that is left to `connectionLost`). -/
theorem frameOutcome_cases {c o : Core} (ho : o ∈ c.frameOutcomes) :
    o = c ∨ o = c.errorClose ∨ (c.st = .openSent ∧ o = (c.setRetry false).withSt .openConfirm) ∨
    (c.st = .openConfirm ∧ o = c.withSt .established) ∨
    ((c.st = .openSent ∨ c.st = .openConfirm) ∧ o = ((c.setRetry false).closeConn).withSt .idle) := by
  rcases mem_frameOutcomes.1 ho with rfl | rfl | rfl | rfl | rfl | rfl | rfl
  · exact .inl rfl
  · exact .inr (.inl rfl)
  · unfold fsmOpenReceived
    cases hs : c.st
    · exact .inl rfl
    · exact .inr (.inl rfl)
    · exact .inr (.inl rfl)
    · exact .inr (.inr (.inl ⟨rfl, rfl⟩))
    · exact .inr (.inl rfl)
    · exact .inr (.inl rfl)
  · unfold fsmKeepaliveReceived
    cases hs : c.st
    · exact .inl rfl
    · exact .inr (.inl rfl)
    · exact .inr (.inl rfl)
    · exact .inr (.inl rfl)
    · exact .inr (.inr (.inr (.inl ⟨rfl, rfl⟩)))
    · exact .inl rfl
  · unfold fsmUpdateReceived
    cases hs : c.st
    · exact .inl rfl
    · exact .inr (.inl rfl)
    · exact .inr (.inl rfl)
    · exact .inr (.inl rfl)
    · exact .inr (.inl rfl)
    · exact .inl rfl
  · unfold fsmNotificationReceived
    rw [if_pos rfl]
    cases hs : c.st
    · exact .inl rfl
    · exact .inr (.inl rfl)
    · exact .inr (.inl rfl)
    · exact .inr (.inr (.inr (.inr ⟨.inl rfl, rfl⟩)))
    · exact .inr (.inr (.inr (.inr ⟨.inr rfl, rfl⟩)))
    · exact .inr (.inl rfl)
  · unfold fsmNotificationReceived
    rw [if_neg Bool.false_ne_true]
    by_cases hs : c.st ≠ .idle
    · rw [if_pos hs]; exact .inr (.inl rfl)
    · rw [if_neg hs]; exact .inl rfl

theorem fsmNotificationReceived_mem (c : Core) (ver : Bool) : c.fsmNotificationReceived ver ∈ c.frameOutcomes := by
  cases ver <;> simp [frameOutcomes]

/-- the hold and keepalive timers do nothing to the skeleton that a frame could not do: the retry flag that `fireHold`
    clears first is overwritten by the error close -/
theorem fireHold_mem (c : Core) : c.fireHold ∈ c.frameOutcomes := by
  unfold fireHold
  cases c.st
  · exact mem_frameOutcomes.2 (.inl rfl)
  all_goals exact mem_frameOutcomes.2 (.inr (.inl rfl))

theorem fireKeepalive_mem (c : Core) : c.fireKeepalive ∈ c.frameOutcomes := by
  unfold fireKeepalive
  cases c.st
  · exact mem_frameOutcomes.2 (.inl rfl)
  · exact mem_frameOutcomes.2 (.inr (.inl rfl))
  · exact mem_frameOutcomes.2 (.inr (.inl rfl))
  all_goals exact mem_frameOutcomes.2 (.inl rfl)

end Core

namespace Sess

theorem core_conn (s : Sess) (i : Nat) : (core s).conn i = pd (s.conn i) := by
  unfold Core.conn core Sess.conn
  simp only [List.getD_eq_getElem?_getD, List.getElem?_map]
  cases s.conns[i]? <;> rfl

theorem core_st (s : Sess) : (core s).st = s.st := rfl

@[simp] theorem len_core (s : Sess) : (core s).conns.length = s.conns.length := List.length_map _

theorem core_setConn_same (s : Sess) (i : Nat) (c : Conn) (h : pd c = pd (s.conn i)) : core (s.setConn i c) = core s := by
  unfold core setConn withConns
  simp only [List.map_set, h]
  congr 1
  apply List.ext_getElem?
  intro j
  simp only [List.getElem?_set, List.length_map]
  split
  · rename_i hij
    subst hij
    split
    · rename_i hl
      simp [Sess.conn, List.getD_eq_getElem?_getD, List.getElem?_map, hl]
    · rename_i hl
      simp at hl
      simp [hl]
  · rfl

@[simp] theorem core_emit (s : Sess) (o : Out) : core (s.emit o) = core s := rfl
@[simp] theorem core_withOuts (s : Sess) (v : List Out) : core (s.withOuts v) = core s := rfl
@[simp] theorem core_withNow (s : Sess) (v : Nat) : core (s.withNow v) = core s := rfl
@[simp] theorem core_withRetryCounter (s : Sess) (v : Nat) : core (s.withRetryCounter v) = core s := rfl
@[simp] theorem core_incRetryCounter (s : Sess) : core s.incRetryCounter = core s := rfl
@[simp] theorem core_withHoldTime (s : Sess) (v : Nat) : core (s.withHoldTime v) = core s := rfl
@[simp] theorem core_withRemote (s : Sess) (v : CapaDict) : core (s.withRemote v) = core s := rfl
@[simp] theorem core_withLocalCaps (s : Sess) (v : LocalCaps) : core (s.withLocalCaps v) = core s := rfl
@[simp] theorem core_withBgpId (s : Sess) (v : Option Nat) : core (s.withBgpId v) = core s := rfl
@[simp] theorem core_setHold (s : Sess) (v : Option Nat) : core (s.setHold v) = core s := rfl
@[simp] theorem core_setKeepalive (s : Sess) (v : Option Nat) : core (s.setKeepalive v) = core s := rfl
@[simp] theorem core_setRetry (s : Sess) (v : Option Nat) : core (s.setRetry v) = (core s).setRetry v.isSome := rfl
@[simp] theorem core_setIdleHold (s : Sess) (v : Option Nat) : core (s.setIdleHold v) = (core s).setIdleHold v.isSome := rfl
@[simp] theorem core_withTm (s : Sess) (v : Timers) :
    core (s.withTm v) = (core s).withTm v.retry.isSome v.idleHold.isSome := rfl
@[simp] theorem core_withSt (s : Sess) (v : St) : core (s.withSt v) = (core s).withSt v := rfl
@[simp] theorem core_withAllow (s : Sess) (v : Bool) : core (s.withAllow v) = (core s).withAllow v := rfl
@[simp] theorem core_withProto (s : Sess) (v : Option Nat) : core (s.withProto v) = (core s).withProto v := rfl
@[simp] theorem core_withEstab (s : Sess) (v : Option Nat) : core (s.withEstab v) = (core s).withEstab v := rfl
@[simp] theorem core_withPending (s : Sess) (v : Option Nat) : core (s.withPending v) = (core s).withPending v := rfl

@[simp] theorem core_setSt (s : Sess) (v : St) : core (s.setSt v) = (core s).withSt v := by
  unfold setSt; split <;> rfl

@[simp] theorem core_bumpSent (s : Sess) (i : Nat) (g : Stats → Stats) : core (s.bumpSent i g) = core s :=
  core_setConn_same s i _ rfl
@[simp] theorem core_bumpRecv (s : Sess) (i : Nat) (g : Stats → Stats) : core (s.bumpRecv i g) = core s :=
  core_setConn_same s i _ rfl
@[simp] theorem core_setAsn4 (s : Sess) (i : Nat) : core (s.setAsn4 i) = core s :=
  core_setConn_same s i _ rfl

@[simp] theorem core_writeOn (s : Sess) (i : Nat) (b : Bytes) : core (s.writeOn i b) = core s := by
  unfold writeOn; split <;> rfl

@[simp] theorem core_sendNotification (s : Sess) (e sub : Nat) (d : Bytes) : core (s.sendNotification e sub d) = core s := by
  unfold sendNotification
  split
  · rfl
  · split <;> simp

@[simp] theorem core_sendKeepalive (s : Sess) : core s.sendKeepalive = core s := by
  unfold sendKeepalive; split <;> simp

@[simp] theorem core_restartHold (s : Sess) : core s.restartHold = core s := by
  unfold restartHold; split <;> simp

theorem core_setPhase (s : Sess) (i : Nat) (p : Phase) : core (s.setPhase i p) = (core s).setPhase i p := by
  unfold setPhase Core.setPhase
  rw [core_conn]
  unfold core setConn withConns
  simp only [List.map_set]
  rfl

theorem core_setDisconnected (s : Sess) (i : Nat) :
    core (s.setDisconnected i) = { core s with conns := (core s).conns.set i ((s.conn i).phase, true) } := by
  unfold setDisconnected core setConn withConns
  simp only [List.map_set]
  rfl

theorem conn_default_of_ge (s : Sess) (i : Nat) (h : s.conns.length ≤ i) : s.conn i = {} := by
  unfold Sess.conn
  simp [List.getD_eq_getElem?_getD, List.getElem?_eq_none h]

theorem core_closeOn (s : Sess) (i : Nat) : core (s.closeOn i) = (core s).closeOn i := by
  unfold closeOn Core.closeOn
  rw [core_conn]
  by_cases h1 : (s.conn i).phase = .connected
  · have hl : i < s.conns.length := by
      by_cases hl : i < s.conns.length
      · exact hl
      · rw [conn_default_of_ge s i (by omega)] at h1; cases h1
    simp only [h1, ↓reduceIte, pd, true_or, core_emit, core_setDisconnected, core_setPhase, Core.setPhase]
    simp only [List.set_set]
    have : ((s.setPhase i .closing).conn i).phase = .closing := by simp [setPhase, conn_setConn, hl]
    rw [this]
  · by_cases h2 : (s.conn i).phase = .closing
    · rw [if_neg h1, if_pos h2, if_pos (Or.inr (by simp [pd, h2])), core_setDisconnected, h2]
    · simp [h1, h2, pd]

theorem core_closeConn (s : Sess) : core s.closeConn = (core s).closeConn := by
  have hp : (core s).proto = s.proto := rfl
  unfold closeConn Core.closeConn
  rw [hp]
  cases s.proto with
  | none => rfl
  | some i => simp only [core_withRetryCounter, core_closeOn]

theorem core_errorClose (s : Sess) : core s.errorClose = (core s).errorClose := by
  unfold errorClose Core.errorClose
  simp only [core_setSt, core_incRetryCounter, core_closeConn, core_withTm, Option.isSome_none, Option.isSome_some]

theorem core_abortPending (s : Sess) : core s.abortPending = (core s).abortPending := by
  unfold abortPending Core.abortPending
  have hp : (core s).pending = s.pending := rfl
  rw [hp]
  cases s.pending with
  | none => rfl
  | some j =>
    simp only
    have : ((core s).conn j).1 = (s.conn j).phase := by rw [core_conn]; rfl
    rw [this]
    split
    · rw [core_setPhase, core_withPending]
    · rw [core_withPending]

theorem core_connectTcp (s : Sess) : core s.connectTcp = (core s).connectTcp := by
  unfold connectTcp Core.connectTcp
  have h1 : (core s).abortPending.st = s.abortPending.st := by rw [← core_abortPending]; rfl
  rw [h1]
  split
  · simp only [core_withPending, core_emit]
    rw [← core_abortPending]
    unfold core withConns Core.withPending
    simp [pd]
  · exact core_abortPending s

theorem core_autoStart (s : Sess) (b : Bool) : core (s.autoStart b) = (core s).autoStart b := by
  simp only [autoStart, Core.autoStart, apply_ite core, core_setIdleHold, core_connectTcp, core_setSt, core_setRetry,
    core_incRetryCounter, Option.isSome_some]
  rfl

theorem core_dropEstab (s : Sess) (p : Option Nat) : core (s.dropEstab p) = (core s).dropEstab p := by
  unfold dropEstab Core.dropEstab
  have h1 : (core s).estab = s.estab := rfl
  rw [h1]
  cases p with
  | none => rfl
  | some q => simp only; split <;> simp only [core_setSt, core_withEstab]

theorem core_connectionClosed (s : Sess) (p : Option Nat) : core (s.connectionClosed p) = (core s).connectionClosed p := by
  simp only [connectionClosed, Core.connectionClosed, apply_ite core, core_autoStart, ← core_dropEstab]
  rfl

theorem core_connectionFailed (s : Sess) : core s.connectionFailed = (core s).connectionFailed := by
  unfold connectionFailed Core.connectionFailed
  have h1 : (core s).st = s.st := rfl
  have h2 : (core s).proto = s.proto := rfl
  rw [h1, h2]
  cases s.st <;>
    simp only [core_connectionClosed, core_setSt, core_closeConn, core_setRetry, core_setHold, core_errorClose, Option.isSome_none,
      Option.isSome_some]

theorem core_manualStart (s : Sess) : core s.manualStart = (core s).manualStart := by
  unfold manualStart Core.manualStart
  rw [core_st]
  cases s.st <;>
    simp only [core_emit, core_connectTcp, core_setSt, core_setRetry, core_withAllow, Option.isSome_some]

theorem core_manualStop (s : Sess) : core s.manualStop = (core s).manualStop := by
  simp only [manualStop, Core.manualStop, apply_ite core, core_sendNotification, ite_self, core_emit, core_abortPending,
    core_setSt, core_withAllow, core_withRetryCounter, core_closeConn, core_withTm]
  rfl

@[simp] theorem core_sendOpen (s : Sess) : core s.sendOpen.1 = core s := by
  unfold sendOpen
  split
  · rfl
  · split <;> simp

/-- The Boolean handed to `Core.connOk` is whether `send_open`, on the state `connectionMade` has prepared, wrote the OPEN;
    the skeleton cannot tell, so `Core.stepOutcome (.connOk i)` lists both. -/
theorem core_connOk (s : Sess) (i : Nat) :
    core (s.connOk i) = (core s).connOk i
      (((((((s.setPhase i .connected).withProto (some i)).setSt .connect).withEstab (some i)).withBgpId
        (some (s.bgpId.getD s.cfg.localId))).setRetry none).setIdleHold none).sendOpen.2 := by
  simp only [connOk, connectionMade, Core.connOk, apply_ite core, core_setSt, core_setHold, core_sendOpen, core_setIdleHold,
    core_setRetry, core_withBgpId, core_withEstab, core_withProto, core_setPhase, Option.isSome_none]

theorem core_connFail (s : Sess) (i : Nat) : core (s.connFail i) = (core s).connFail i := by
  simp only [connFail, Core.connFail, apply_ite core, core_connectionFailed, core_emit, core_setPhase, core_withPending]
  rfl

theorem core_connLost (s : Sess) (i : Nat) : core (s.connLost i) = (core s).connLost i := by
  simp only [connLost, Core.connLost, apply_ite core, core_connectionClosed, core_connectionFailed, core_emit, core_setPhase,
    core_conn, pd]

theorem core_fireRetry (s : Sess) : core s.fireRetry = (core s).fireRetry := by
  unfold fireRetry Core.fireRetry
  rw [core_st]
  cases s.st <;>
    simp only [core_connectTcp, core_setRetry, core_closeConn, core_errorClose, core_sendNotification,
      Option.isSome_some, Option.isSome_none]

theorem core_fireHold (s : Sess) : core s.fireHold = (core s).fireHold := by
  unfold fireHold Core.fireHold
  rw [core_st]
  cases s.st <;>
    simp only [core_setSt, core_setRetry, core_setHold, core_errorClose, core_sendNotification, Option.isSome_none]

theorem core_fireKeepalive (s : Sess) : core s.fireKeepalive = (core s).fireKeepalive := by
  unfold fireKeepalive Core.fireKeepalive
  rw [core_st]
  cases s.st <;> simp only [core_setKeepalive, core_errorClose]
  all_goals (split <;> simp only [core_setKeepalive, core_sendKeepalive])

theorem core_fireIdleHold (s : Sess) : core s.fireIdleHold = (core s).fireIdleHold := by
  simp only [fireIdleHold, Core.fireIdleHold, apply_ite core, core_autoStart, core_setIdleHold, Option.isSome_none]
  rfl

theorem core_fsmOpenReceived (s : Sess) : core s.fsmOpenReceived = (core s).fsmOpenReceived := by
  unfold fsmOpenReceived Core.fsmOpenReceived
  rw [core_st]
  cases s.st <;> simp only [core_errorClose, core_sendNotification]
  split <;>
    simp only [core_setSt, core_setHold, core_setKeepalive, core_sendKeepalive, core_setRetry, Option.isSome_none]

theorem core_fsmKeepaliveReceived (s : Sess) : core s.fsmKeepaliveReceived = (core s).fsmKeepaliveReceived := by
  unfold fsmKeepaliveReceived Core.fsmKeepaliveReceived
  rw [core_st]
  cases s.st <;> simp only [core_errorClose, core_sendNotification, core_setSt, core_restartHold]

theorem core_fsmUpdateReceived (s : Sess) : core s.fsmUpdateReceived = (core s).fsmUpdateReceived := by
  unfold fsmUpdateReceived Core.fsmUpdateReceived
  rw [core_st]
  cases s.st <;> simp only [core_errorClose, core_sendNotification, core_restartHold]

theorem core_fsmNotificationReceived (s : Sess) (e sub : Nat) :
    core (s.fsmNotificationReceived e sub) = (core s).fsmNotificationReceived (decide (e = C.errOpen ∧ sub = 1)) := by
  unfold fsmNotificationReceived Core.fsmNotificationReceived
  rw [core_st]
  by_cases h : e = C.errOpen ∧ sub = 1
  · simp only [h, and_self, ↓reduceIte, decide_true]
    cases s.st <;> simp only [core_errorClose, core_setSt, core_closeConn, core_setRetry, core_setHold, core_setKeepalive, Option.isSome_none]
  · simp only [h, ↓reduceIte, decide_false, Bool.false_eq_true, apply_ite core, core_errorClose]

theorem core_headerError (s : Sess) (sub : Nat) (d : Bytes) : core (s.headerError sub d) = (core s).errorClose := by
  unfold headerError; rw [core_errorClose, core_sendNotification]

theorem core_openMessageError (s : Sess) (sub : Nat) : core (s.openMessageError sub) = (core s).errorClose := by
  unfold openMessageError; rw [core_errorClose, core_sendNotification]

theorem core_openAccepted_mem (s : Sess) (i : Nat) (m : OpenMsg) :
    core (s.openAccepted i m).1 ∈ (core s).frameOutcomes :=
  openAccepted_cases (P := fun r => core r.1 ∈ (core s).frameOutcomes) fun t ht => by
    have hX : core t = core s := by rcases ht with rfl | rfl <;> simp only [core_setAsn4, core_withRemote]
    simp only [core_openMessageError, core_emit, core_fsmOpenReceived, core_withHoldTime, hX, Core.mem_frameOutcomes,
      true_or, or_true, and_self]

theorem core_openReceived_mem (s : Sess) (i : Nat) (body : Bytes) :
    core (s.openReceived i body).1 ∈ (core s).frameOutcomes := by
  refine openReceived_cases (P := fun r => core r.1 ∈ (core s).frameOutcomes) ?_ ?_ ?_
    fun m => core_bumpRecv s i incOpens ▸ core_openAccepted_mem (s.bumpRecv i incOpens) i m
  all_goals
    intros
    simp only [core_headerError, core_openMessageError, core_bumpRecv, Core.mem_frameOutcomes, true_or, or_true]

theorem core_dispatch_mem (U : Bool → Bytes → UpdClass) (s : Sess) (i ty : Nat) (body : Bytes) :
    core (dispatch U s i ty body).1 ∈ (core s).frameOutcomes := by
  refine dispatch_cases (P := fun r => core r.1 ∈ (core s).frameOutcomes) (core_openReceived_mem s i body) ?_ ?_ ?_ ?_ ?_
    (fun e sub d => by
      simp only [core_fsmNotificationReceived, core_emit, core_bumpRecv]; exact Core.fsmNotificationReceived_mem _ _)
    ?_ ?_ ?_ ?_ ?_
  all_goals
    intros
    simp only [core_fsmUpdateReceived, core_fsmKeepaliveReceived, core_headerError, core_emit, core_bumpRecv,
      Core.mem_frameOutcomes, true_or, or_true]

theorem core_parseBuffer_mem (U : Bool → Bytes → UpdClass) (s : Sess) (i : Nat) (buf : Bytes) :
    core (parseBuffer U s i buf).1 ∈ (core s).frameOutcomes := by
  refine parseBuffer_cases (P := fun r => core r.1 ∈ (core s).frameOutcomes) ?_ ?_ ?_
    (fun ty body _ => core_dispatch_mem U s i ty body)
  all_goals
    intros
    simp only [core_headerError, Core.mem_frameOutcomes, true_or, or_true]

theorem core_drain_inv (U : Bool → Bytes → UpdClass) (P : Core → Prop)
    (hP : ∀ c, P c → ∀ o ∈ c.frameOutcomes, P o) (i : Nat) :
    ∀ (fuel : Nat) (s : Sess) (buf : Bytes), P (core s) → P (core (drain U fuel s i buf).1) := by
  intro fuel
  induction fuel with
  | zero => intro s buf h; exact h
  | succ n ih =>
    intro s buf h
    unfold drain
    have h1 := hP _ h _ (core_parseBuffer_mem U s i buf)
    split
    · exact ih _ _ h1
    · exact h1

end Sess

def Core.stepOutcome (c : Core) : Ev → List Core
  | .boot => [c.autoStart false]
  | .manualStart => [c.manualStart]
  | .manualStop => [c.manualStop]
  | .connOk i => [c.connOk i true, c.connOk i false]
  | .connFail i => [c.connFail i]
  | .lost i => [c.connLost i]
  | .advance _ => [c]
  | .fire .retry => [c.fireRetry]
  | .fire .hold => [c.fireHold]
  | .fire .keepalive => [c.fireKeepalive]
  | .fire .idleHold => [c.fireIdleHold]
  | .chunk _ _ => []          -- handled by `core_drain_inv`

def Core.enabledC (c : Core) : Ev → Prop
  | .connOk i => i < c.conns.length ∧ (c.conn i).1 = .connecting
  | .connFail i => i < c.conns.length ∧ (c.conn i).1 = .connecting
  | .chunk i _ => i < c.conns.length ∧ (c.conn i).1 = .connected
  | .lost i => i < c.conns.length ∧ ((c.conn i).1 = .connected ∨ (c.conn i).1 = .closing)
  | .fire .retry => c.retry = true
  | .fire .idleHold => c.idleHold = true
  | _ => True

/-- To show `P` of whatever an event can make of the skeleton: the eight actions proper, and the frame outcomes (which
    cover the passing of time and the hold and keepalive timers). -/
theorem Core.stepOutcome_cases {P : Core → Prop} {c : Core}
    (frame : ∀ o ∈ c.frameOutcomes, P o)
    (boot : P (c.autoStart false)) (start : P c.manualStart) (stop : P c.manualStop)
    (ok : ∀ i b, i < c.conns.length → (c.conn i).1 = .connecting → P (c.connOk i b))
    (fail : ∀ i, i < c.conns.length → (c.conn i).1 = .connecting → P (c.connFail i))
    (lost : ∀ i, P (c.connLost i)) (retry : P c.fireRetry) (idleHold : P c.fireIdleHold)
    (e : Ev) (hen : c.enabledC e) : ∀ o ∈ c.stepOutcome e, P o := by
  intro o ho
  cases e with
  | boot => cases List.mem_singleton.1 ho; exact boot
  | manualStart => cases List.mem_singleton.1 ho; exact start
  | manualStop => cases List.mem_singleton.1 ho; exact stop
  | connOk i =>
    rcases List.mem_cons.1 ho with rfl | ho
    · exact ok i true hen.1 hen.2
    · cases List.mem_singleton.1 ho; exact ok i false hen.1 hen.2
  | connFail i => cases List.mem_singleton.1 ho; exact fail i hen.1 hen.2
  | lost i => cases List.mem_singleton.1 ho; exact lost i
  | advance dt => cases List.mem_singleton.1 ho; exact frame _ (Core.mem_frameOutcomes.2 (.inl rfl))
  | chunk i d => cases ho
  | fire t =>
    cases t with
    | retry => cases List.mem_singleton.1 ho; exact retry
    | hold => cases List.mem_singleton.1 ho; exact frame _ c.fireHold_mem
    | keepalive => cases List.mem_singleton.1 ho; exact frame _ c.fireKeepalive_mem
    | idleHold => cases List.mem_singleton.1 ho; exact idleHold

theorem isSome_of_fire {s : Sess} {t : TimerId} (h : enabled s (.fire t) = true) : (timerOf s.tm t).isSome = true := by
  simp only [enabled] at h
  cases ht : timerOf s.tm t <;> simp [ht] at h ⊢

theorem enabledC_of_enabled (s : Sess) (e : Ev) (h : enabled s e = true) : (core s).enabledC e := by
  cases e
  case fire t =>
    cases t
    case retry => exact isSome_of_fire h
    case idleHold => exact isSome_of_fire h
    all_goals trivial
  case connOk i | connFail i | chunk i d | lost i => simpa [enabled, Core.enabledC, Sess.core_conn, pd] using h
  all_goals trivial

theorem core_step_mem (U : Bool → Bytes → UpdClass) (w : World) (e : Ev) (hne : ∀ c d, e ≠ .chunk c d) :
    core (step U w e).sess ∈ (core w.sess).stepOutcome e := by
  cases e with
  | chunk c d => exact absurd rfl (hne c d)
  | connOk i =>
    show core ((w.sess.withOuts []).connOk i) ∈ _
    rw [Sess.core_connOk]
    cases (Sess.sendOpen _).2 <;> simp [Core.stepOutcome]
  | fire t =>
    cases t <;>
      simp [step, Core.stepOutcome, Sess.core_fireRetry, Sess.core_fireHold, Sess.core_fireKeepalive, Sess.core_fireIdleHold]
  | _ =>
    simp [step, Core.stepOutcome, Sess.core_autoStart, Sess.core_manualStart, Sess.core_manualStop, Sess.core_connFail,
      Sess.core_connLost]

theorem core_step_inv (U : Bool → Bytes → UpdClass) (P : Core → Prop)
    (hF : ∀ c, P c → ∀ o ∈ c.frameOutcomes, P o)
    (w : World) (e : Ev) (hen : enabled w.sess e = true)
    (hE' : P (core w.sess) → (core w.sess).enabledC e → ∀ o ∈ (core w.sess).stepOutcome e, P o)
    (h : P (core w.sess)) : P (core (step U w e).sess) := by
  cases e with
  | chunk c d => exact Sess.core_drain_inv U P hF c _ _ _ h
  | _ => exact hE' h (enabledC_of_enabled w.sess _ hen) _ (core_step_mem U w _ nofun)

end Yabgp
