/-
  Lemmas that relate the constructor models to the structural walker (C08).
  `Seq item a` - `a` is a run of well-formed items in front of anything - is what every constructor is shown to
  produce; the grammar's length-prefixed items are each stated once in that form, and every list constructor is
  `Mp.encAll` of its element encoder, so that one closure lemma serves them all.
-/
import Yabgp.Spec.Walker
import Yabgp.Model.Construct.Guards
import Yabgp.Lemmas.OpenRt
import Yabgp.Lemmas.Agree

namespace Yabgp.Walker

theorem many_nil (item : Bytes → Option Bytes) (n : Nat) : many item n [] = true := by
  cases n <;> rfl

theorem all_nil (item : Bytes → Option Bytes) : all item [] = true := rfl

/-- more fuel never hurts -/
theorem many_mono (item : Bytes → Option Bytes) :
    ∀ (n m : Nat) (b : Bytes), n ≤ m → many item n b = true → many item m b = true := by
  intro n
  induction n with
  | zero =>
    intro m b _ h
    cases b with
    | nil => exact many_nil item m
    | cons x xs => simp [many] at h
  | succ n ih =>
    intro m b hnm h
    cases b with
    | nil => exact many_nil item m
    | cons x xs =>
      obtain ⟨m', rfl⟩ : ∃ m', m = m' + 1 := ⟨m - 1, by omega⟩
      simp only [many] at h ⊢
      split at h
      · simp at h
      · rename_i r hr
        simp only [Bool.and_eq_true, decide_eq_true_eq] at h ⊢
        exact ⟨h.1, ih m' r (by omega) h.2⟩

theorem all_cons_item {item : Bytes → Option Bytes} {x r : Bytes}
    (hx : item (x ++ r) = some r) (hne : x ≠ []) (hr : all item r = true) :
    all item (x ++ r) = true := by
  unfold all at hr ⊢
  obtain ⟨y, ys, rfl⟩ := List.exists_cons_of_ne_nil hne
  simp only [List.cons_append, List.length_cons, List.length_append] at hx ⊢
  rw [show ys.length + r.length + 1 = (ys.length + r.length) + 1 from rfl]
  simp only [many, hx, Bool.and_eq_true, decide_eq_true_eq]
  refine ⟨by simp only [List.length_cons, List.length_append]; omega, ?_⟩
  exact many_mono item r.length _ r (by omega) hr

def Seq (item : Bytes → Option Bytes) (a : Bytes) : Prop :=
  ∀ r, all item r = true → all item (a ++ r) = true

theorem Seq.nil (item : Bytes → Option Bytes) : Seq item [] := fun _ h => h

theorem Seq.append {item : Bytes → Option Bytes} {a b : Bytes} (ha : Seq item a) (hb : Seq item b) :
    Seq item (a ++ b) := by
  intro r hr
  rw [List.append_assoc]
  exact ha _ (hb r hr)

theorem Seq.single {item : Bytes → Option Bytes} {x : Bytes} (hne : x ≠ [])
    (hx : ∀ r, item (x ++ r) = some r) : Seq item x :=
  fun r hr => all_cons_item (hx r) hne hr

theorem Seq.all {item : Bytes → Option Bytes} {a : Bytes} (ha : Seq item a) : all item a = true := by
  have := ha [] (all_nil item)
  simpa using this

theorem Seq.flatMap {α : Type} {item : Bytes → Option Bytes} (enc : α → Bytes) (xs : List α)
    (h : ∀ x ∈ xs, Seq item (enc x)) : Seq item (xs.flatMap enc) := by
  induction xs with
  | nil => exact Seq.nil item
  | cons x r ih =>
    rw [List.flatMap_cons]
    exact Seq.append (h x (by simp)) (ih (fun y hy => h y (by simp [hy])))

theorem encAll_closed {α : Type} {P : Bytes → Prop} (hnil : P []) (happ : ∀ a b, P a → P b → P (a ++ b))
    (enc : α → Option Bytes) (xs : List α) (h : ∀ x ∈ xs, ∀ b, enc x = some b → P b) :
    ∀ w, Mp.encAll enc xs = some w → P w := by
  induction xs with
  | nil => intro w hw; cases hw; exact hnil
  | cons x r ih =>
    intro w hw
    simp only [Mp.encAll] at hw
    split at hw
    · rename_i a c h1 h2
      cases hw
      exact happ a c (h x (by simp) a h1) (ih (fun y hy => h y (by simp [hy])) c h2)
    · cases hw

theorem encAll_seq {α : Type} {item : Bytes → Option Bytes} (enc : α → Option Bytes) (xs : List α)
    (h : ∀ x ∈ xs, ∀ b, enc x = some b → Seq item b) : ∀ w, Mp.encAll enc xs = some w → Seq item w :=
  encAll_closed (Seq.nil item) (fun _ _ => Seq.append) enc xs h

theorem skip_eq {n : Nat} (a r : Bytes) (h : a.length = n) : skip n (a ++ r) = some r := by
  subst h; simp [skip]

/-- `n` is the length the constructor wrote: often a sum it computed, not `v.length` itself -/
theorem tlv11_app (p : Nat → Bytes → Bool) (ty n : Nat) (v r : Bytes) (hty : ty < 256) (hn : v.length = n)
    (hl : n < 256) (hok : p ty v = true) : tlv11 p (u8 ty :: u8 n :: (v ++ r)) = some r := by
  subst hn
  simp only [tlv11, u8_toNat hty, u8_toNat hl, List.take_left', List.drop_left', hok]
  simp

theorem tlv12_app (p : Nat → Bytes → Bool) (ty n : Nat) (v r : Bytes) (hty : ty < 256) (hn : v.length = n)
    (hl : n < 65536) (hok : p ty v = true) : tlv12 p (u8 ty :: u8 (n / 256) :: u8 n :: (v ++ r)) = some r := by
  subst hn
  simp only [tlv12, u8_toNat hty, be16_val hl, List.take_left', List.drop_left', hok]
  simp

theorem seq_tlv11 (p : Nat → Bytes → Bool) (ty n : Nat) (v : Bytes) (hty : ty < 256) (hn : v.length = n)
    (hl : n < 256) (hok : p ty v = true) : Seq (tlv11 p) (u8 ty :: u8 n :: v) :=
  Seq.single (by simp) (tlv11_app p ty n v · hty hn hl hok)

theorem seq_tlv22 (p : Nat → Bytes → Bool) (ty : Nat) (v : Bytes) (hty : ty < 65536) (hl : v.length < 65536)
    (hok : p ty v = true) : Seq (tlv22 p) (be16 ty ++ be16 v.length ++ v) :=
  Seq.single (by simp [be16]) fun r => by
    simp only [be16, List.cons_append, List.nil_append, tlv22, be16_val hty, be16_val hl, List.take_left',
      List.drop_left', hok]
    simp

/-- RFC 9012 sub-TLV of type below 128: 1-octet length -/
theorem seq_sub_short (p : Nat → Bytes → Bool) (ty n : Nat) (v : Bytes) (hty : ty < 128) (hn : v.length = n)
    (hl : n < 256) (hok : p ty v = true) : Seq (subTlv p) (u8 ty :: u8 n :: v) :=
  Seq.single (by simp) fun r => by
    have h256 : ty < 256 := by omega
    simp only [List.cons_append, subTlv, u8_toNat h256, hty, ↓reduceIte]
    exact tlv11_app p ty n v r h256 hn hl hok

/-- ... of type 128 or above: 2-octet length -/
theorem seq_sub_long (p : Nat → Bytes → Bool) (ty n : Nat) (v : Bytes) (hty : 128 ≤ ty) (hty' : ty < 256)
    (hn : v.length = n) (hl : n < 65536) (hok : p ty v = true) : Seq (subTlv p) (u8 ty :: (be16 n ++ v)) :=
  Seq.single (by simp) fun r => by
    simp only [be16, List.cons_append, List.nil_append, subTlv, u8_toNat hty', show ¬ ty < 128 by omega, ↓reduceIte]
    exact tlv12_app p ty n v r hty' hn hl hok

theorem flagsOk_lt {code f : Nat} (h : flagsOk code f = true) : f < 256 := by
  simp only [flagsOk, Bool.and_eq_true, decide_eq_true_eq] at h
  exact h.1.1

theorem seq_attr_short (cfg : Cfg) (f code : Nat) (body : Bytes) (hc : code < 256)
    (hl : body.length < 256) (hext : f / 16 % 2 = 0) (hflags : flagsOk code f = true)
    (hv : attrValueOk cfg code body = true) :
    Seq (attrItem cfg) (be8 f ++ be8 code ++ be8 body.length ++ body) :=
  Seq.single (by simp [be8]) fun r => by
    simp only [be8, List.cons_append, List.nil_append, attrItem, u8_toNat (flagsOk_lt hflags), u8_toNat hc,
      u8_toNat hl, hext, hflags, List.take_left', List.drop_left', hv]
    simp

theorem seq_attr_ext (cfg : Cfg) (f code : Nat) (body : Bytes) (hc : code < 256)
    (hl : body.length < 65536) (hext : f / 16 % 2 = 1) (hflags : flagsOk code f = true)
    (hv : attrValueOk cfg code body = true) :
    Seq (attrItem cfg) (be8 f ++ be8 code ++ be16 body.length ++ body) :=
  Seq.single (by simp [be8]) fun r => by
    simp only [be8, be16, List.cons_append, List.nil_append, attrItem, u8_toNat (flagsOk_lt hflags), u8_toNat hc,
      be16_val hl, hext, hflags, List.take_left', List.drop_left', hv]
    simp

theorem marker_eq : Yabgp.marker = Walker.marker := rfl

theorem valid_header (cfg : Cfg) (ty : Nat) (body : Bytes) (hty : ty < 256) (hlen : body.length + 19 < 65536) :
    valid cfg (Yabgp.marker ++ be16 (body.length + 19) ++ be8 ty ++ body) = bodyOk cfg ty body := by
  have hm : Walker.marker.length = 16 := rfl
  have e : (Yabgp.marker ++ be16 (body.length + 19) ++ be8 ty ++ body).length = body.length + 19 := by
    simp [marker_eq, hm]; omega
  simp only [valid, e]
  simp only [marker_eq, List.append_assoc, List.take_left' hm, List.drop_left' hm, be16, be8, List.cons_append,
    List.nil_append, be16_val hlen, u8_toNat hty, decide_true, Bool.true_and]

theorem constructHeader_valid (cfg : Cfg) (ty : Nat) (body w : Bytes) (hty : ty < 256)
    (hc : constructHeader ty body = some w) (hb : bodyOk cfg ty body = true) : valid cfg w = true := by
  simp only [constructHeader, Option.ite_none_right_eq_some, Option.some.injEq] at hc
  obtain ⟨hlen, rfl⟩ := hc
  rw [valid_header cfg ty body hty hlen, hb]

theorem flatMap_length_mod {α β : Type} (k : Nat) {f : α → List β} (hf : ∀ a, (f a).length = k) (l : List α) :
    (l.flatMap f).length % k = 0 := by
  rw [length_flatMap_const k hf, Nat.mul_mod_right]

open Spec in
/-- the value of a capability of the reference encoder has the size (or the entry size) its code asks for; only the
    body of graceful restart (code 64) is the caller's -/
theorem capValueOk_ref (x : Cap) (h : CapOk x) (hgr : x.code ≠ 64) : capValueOk x.code x.value = true := by
  cases x with
  | gracefulRestart b => exact absurd rfl hgr
  | addPath l => exact decide_eq_true (flatMap_length_mod 4 (fun _ => rfl) l)
  | llgr l => exact decide_eq_true (flatMap_length_mod 7 (fun _ => rfl) l)
  | extNextHop l => exact decide_eq_true (flatMap_length_mod 6 (fun _ => rfl) l)
  | unknown c b =>
    have h2 := h.2.1
    simp only [List.mem_cons, List.not_mem_nil, or_false, not_or] at h2
    simp [Cap.code, capValueOk, h2]
  | _ => rfl

open Spec in
theorem seq_encParam (p : List Cap) (hp : ∀ x ∈ p, CapOk x ∧ x.code ≠ 64) (hl : (p.flatMap encCap).length < 256) :
    Seq optParamItem (encParam p) :=
  seq_tlv11 optParamOk 2 _ _ (by decide) rfl hl
    (Seq.flatMap _ p fun x hx => seq_tlv11 capValueOk x.code _ x.value (capCode_lt x (hp x hx).1) rfl
      (capValue_length_lt x (hp x hx).1) (capValueOk_ref x (hp x hx).1 (hp x hx).2)).all

theorem asWidth_eq (asn4 : Bool) : Walker.asWidth asn4 = Yabgp.asWidth asn4 := rfl

theorem seq_encSegment (asn4 : Bool) (s : Nat × List Nat) (b : Bytes) (h : encSegment asn4 s = some b) :
    Seq (segItem (Walker.asWidth asn4)) b := by
  simp only [encSegment, Option.ite_none_right_eq_some, Option.some.injEq] at h
  obtain ⟨hs, rfl⟩ := h
  refine Seq.single (by simp [be8]) (fun r => ?_)
  simp only [be8, List.cons_append, List.nil_append, segItem, u8_toNat hs.2.1]
  exact skip_eq _ _ (by rw [encAsns_length, asWidth_eq])

theorem encSegments_eq (asn4 : Bool) : encSegments asn4 = Mp.encAll (encSegment asn4) := by
  funext segs
  induction segs with
  | nil => rfl
  | cons s r ih =>
    simp only [encSegments, Mp.encAll, ih]
    cases encSegment asn4 s <;> cases Mp.encAll (encSegment asn4) r <;> rfl

theorem seq_encSegments (asn4 : Bool) (segs : List (Nat × List Nat)) (b : Bytes)
    (h : encSegments asn4 segs = some b) : Seq (segItem (Walker.asWidth asn4)) b :=
  encAll_seq _ segs (fun s _ => seq_encSegment asn4 s) b (encSegments_eq asn4 ▸ h)

theorem seq_attrHdr1 (cfg : Cfg) (f code : Nat) (body w : Bytes) (h : attrHdr1 f code body = some w)
    (hc : code < 256) (hext : f / 16 % 2 = 0) (hflags : flagsOk code f = true)
    (hv : attrValueOk cfg code body = true) : Seq (attrItem cfg) w := by
  simp only [attrHdr1, Option.ite_none_right_eq_some, Option.some.injEq] at h
  obtain ⟨hl, rfl⟩ := h
  exact seq_attr_short cfg f code body hc hl hext hflags hv

/-- AS_PATH: extended length from 256 octets on -/
theorem seq_constructAsPath (cfg : Cfg) (segs : List (Nat × List Nat)) (w : Bytes)
    (h : constructAsPath cfg.asn4 segs = some w) : Seq (attrItem cfg) w := by
  simp only [constructAsPath, Option.bind_eq_bind, Option.bind_eq_some_iff] at h
  obtain ⟨raw, hr, h⟩ := h
  have hv : attrValueOk cfg C.tAsPath raw = true := (seq_encSegments cfg.asn4 segs raw hr).all
  split at h
  · simp only [Option.ite_none_right_eq_some, Option.pure_def, Option.some.injEq] at h
    obtain ⟨hlen, rfl⟩ := h
    exact seq_attr_ext cfg (C.fAsPath + C.fExtLen) C.tAsPath raw (by decide) hlen (by decide) (by decide) hv
  · cases h
    exact seq_attr_short cfg C.fAsPath C.tAsPath raw (by decide) (by omega) (by decide) (by decide) hv

theorem seq_constructAttr (cfg : Cfg) (code : Nat) (v : AttrVal) (w : Bytes)
    (h : constructAttr cfg.asn4 code v = some w) : Seq (attrItem cfg) w := by
  cases v <;> simp only [constructAttr, Option.ite_none_right_eq_some, Option.some.injEq, reduceCtorEq] at h
  case origin n =>
    obtain ⟨_, _, rfl⟩ := h
    exact seq_attr_short cfg C.fOrigin C.tOrigin (be8 n) (by decide) (by simp) (by decide) (by decide) rfl
  case asPath segs => exact seq_constructAsPath cfg segs w h.2
  case nextHop n | med n | localPref n | originatorId n =>
    -- the four 4-octet attributes
    obtain ⟨_, rfl⟩ := h
    exact seq_attr_short cfg _ _ (be32 n) (by decide) (by simp) (by decide) (by decide) rfl
  case atomicAgg =>
    obtain ⟨_, rfl⟩ := h
    exact seq_attr_short cfg C.fAtomicAgg C.tAtomicAgg [] (by decide) (by decide) (by decide) (by decide) rfl
  case aggregator a ip =>
    refine seq_attrHdr1 cfg _ _ _ w h.2 (by decide) (by decide) (by decide) ?_
    cases h4 : cfg.asn4 <;> simp [attrValueOk, C.tAggregator, Walker.asWidth, h4]
  case community l | clusterList l =>
    refine seq_attrHdr1 cfg _ _ _ w h.2 (by decide) (by decide) (by decide) ?_
    simp only [attrValueOk, flatMap_be32_length]; simp [C.tCommunity, C.tClusterList]
  case largeCommunity xs =>
    refine seq_attrHdr1 cfg _ _ _ w h.2 (by decide) (by decide) (by decide) ?_
    simp only [attrValueOk, length_flatMap_const 12 (f := fun t : Nat × Nat × Nat => be32 t.1 ++ be32 t.2.1 ++ be32 t.2.2) fun _ => rfl]; simp [C.tLargeCommunity]

theorem constructAttributes_eq (asn4 : Bool) :
    constructAttributes asn4 = Mp.encAll fun kv =>
      if kv.1 ∈ constructCodes then constructAttr asn4 kv.1 kv.2
      else if kv.1 ∈ constructOtherCodes then none else some [] := by
  funext as
  induction as with
  | nil => rfl
  | cons kv r ih =>
    obtain ⟨code, v⟩ := kv
    simp only [constructAttributes, Mp.encAll, ih]
    generalize (if code ∈ constructCodes then constructAttr asn4 code v
      else if code ∈ constructOtherCodes then none else some []) = o
    cases o <;> cases Mp.encAll _ r <;> rfl

theorem seq_constructAttributes (cfg : Cfg) (as : List (Nat × AttrVal)) (w : Bytes)
    (h : constructAttributes cfg.asn4 as = some w) : Seq (attrItem cfg) w := by
  refine encAll_seq _ as (fun kv _ a ha => ?_) w (constructAttributes_eq cfg.asn4 ▸ h)
  split at ha
  · exact seq_constructAttr cfg kv.1 kv.2 a ha
  · simp only [Option.ite_none_left_eq_some, Option.some.injEq] at ha
    obtain ⟨_, rfl⟩ := ha
    exact Seq.nil _

/-- the repaired constructor's prefix: path identifier iff add-path, then length and ceil(length/8) octets -/
theorem seq_constructPrefix (addpath : Bool) (p : Pfx) (x : Bytes) (hg : addpath = true → p.pathId.isSome = true)
    (h : constructPrefix addpath p = some x) : Seq (pathPrefixItem addpath 32) x := by
  unfold constructPrefix at h
  split at h
  · cases h
  · rename_i hr
    have hlen : p.len ≤ 32 := by omega
    have hbody : ∀ r, prefixItem 32 ((be8 p.len ++ (be32 p.addr).take (prefixOctets p.len)) ++ r) = some r := by
      intro r
      simp only [be8, List.cons_append, List.nil_append, prefixItem, u8_toNat (show p.len < 256 by omega), hlen,
        ↓reduceIte]
      refine skip_eq _ _ ?_
      rw [prefixOctets_eq hlen]
      simp [ceil8]; omega
    cases addpath with
    | false =>
      cases hp : p.pathId with
      | none =>
        simp only [hp, Option.some.injEq] at h; subst h
        exact Seq.single (by simp [be8]) (by simpa [pathPrefixItem] using hbody)
      | some pid => simp [hp] at h
    | true =>
      obtain ⟨pid, hp⟩ := Option.isSome_iff_exists.mp (hg rfl)
      simp only [hp, ↓reduceIte, Option.ite_none_right_eq_some, Option.some.injEq] at h
      obtain ⟨_, rfl⟩ := h
      refine Seq.single (by simp [be32]) (fun r => ?_)
      simp only [pathPrefixItem, ↓reduceIte, List.append_assoc]
      rw [skip_eq (be32 pid) _ (by simp)]
      simpa [List.append_assoc] using hbody r

theorem constructPrefixV4_eq (addpath : Bool) : constructPrefixV4 addpath = Mp.encAll (constructPrefix addpath) := by
  funext ps
  induction ps with
  | nil => rfl
  | cons p r ih =>
    simp only [constructPrefixV4, Mp.encAll, ih]
    cases constructPrefix addpath p <;> cases Mp.encAll (constructPrefix addpath) r <;> rfl

theorem seq_constructPrefixV4 (addpath : Bool) (ps : List Pfx) (hg : pathIdGuard addpath ps = true) (w : Bytes)
    (h : constructPrefixV4 addpath ps = some w) : Seq (pathPrefixItem addpath 32) w := by
  refine encAll_seq _ ps (fun p hp x hx => seq_constructPrefix addpath p x (fun ha => ?_) hx) w
    (constructPrefixV4_eq addpath ▸ h)
  simp only [pathIdGuard, ha, Bool.not_true, Bool.false_or, List.all_eq_true] at hg
  exact hg p hp

theorem updateOk_of_parts (cfg : Cfg) (w a n : Bytes) (hw : w.length < 65536) (ha : a.length < 65536)
    (sw : all (pathPrefixItem cfg.addpath 32) w = true) (sa : all (attrItem cfg) a = true)
    (sn : all (pathPrefixItem cfg.addpath 32) n = true) :
    updateOk cfg (be16 w.length ++ w ++ be16 a.length ++ a ++ n) = true := by
  have e : be16 w.length ++ w ++ be16 a.length ++ a ++ n
      = u8 (w.length / 256) :: u8 w.length :: (w ++ (u8 (a.length / 256) :: u8 a.length :: (a ++ n))) := by
    simp [be16]
  rw [e]
  simp only [updateOk, be16_val hw, List.take_left', List.drop_left', sw, updateTail, be16_val ha, sa, sn]
  simp

end Yabgp.Walker

namespace Yabgp.Walker
open Yabgp.Mp

/-- `FLAG, ID, 2-octet length, value` of the MP attributes: optional, non-transitive, extended length -/
theorem seq_attrWrap (cfg : Cfg) (code : Nat) (v w : Bytes) (hcode : code = 14 ∨ code = 15)
    (h : attrWrap code v = .ok w) (hv : attrValueOk cfg code v = true) : Seq (attrItem cfg) w := by
  unfold attrWrap at h
  split at h
  · rename_i hlen
    cases h
    exact seq_attr_ext cfg 0x90 code v (by omega) hlen (by decide) (by rcases hcode with rfl | rfl <;> decide) hv
  · cases h

theorem mpReachOk_reachValue (afi safi : Nat) (nh nl : Bytes) (ha : afi < 65536) (hs : safi < 256)
    (hn : nh.length < 256) (hnl : nlriOk afi safi nl = true) :
    mpReachOk (reachValue afi safi nh.length nh nl) = true := by
  have e : reachValue afi safi nh.length nh nl
      = u8 (afi / 256) :: u8 afi :: u8 safi :: u8 nh.length :: (nh ++ (0 :: nl)) := by
    simp [reachValue, be16, be8]
  rw [e]
  simp only [mpReachOk, u8_toNat hn, List.drop_left', be16_val ha, u8_toNat hs, hnl]
  simp

theorem mpUnreachOk_unreachValue (afi safi : Nat) (nl : Bytes) (ha : afi < 65536) (hs : safi < 256)
    (hnl : nlriOk afi safi nl = true) : mpUnreachOk (unreachValue afi safi nl) = true := by
  simp only [unreachValue, be16, be8, List.cons_append, List.nil_append, mpUnreachOk, be16_val ha, u8_toNat hs, hnl]

theorem seq_mpReach (cfg : Cfg) (afi safi nhLen : Nat) (nh nl w : Bytes) (ha : afi < 65536) (hs : safi < 256)
    (hn : nh.length = nhLen) (hlt : nhLen < 256) (hnl : nlriOk afi safi nl = true)
    (h : attrWrap 14 (reachValue afi safi nhLen nh nl) = .ok w) : Seq (attrItem cfg) w := by
  subst hn
  exact seq_attrWrap cfg 14 _ w (Or.inl rfl) h (mpReachOk_reachValue afi safi nh nl ha hs hlt hnl)

theorem seq_mpUnreach (cfg : Cfg) (afi safi : Nat) (nl w : Bytes) (ha : afi < 65536) (hs : safi < 256)
    (hnl : nlriOk afi safi nl = true) (h : attrWrap 15 (unreachValue afi safi nl) = .ok w) :
    Seq (attrItem cfg) w :=
  seq_attrWrap cfg 15 _ w (Or.inr rfl) h (mpUnreachOk_unreachValue afi safi nl ha hs hnl)

theorem packed_cases (a : Ip) : a.width = 32 ∧ a.packed.length = 4 ∨ a.width = 128 ∧ a.packed.length = 16 := by
  cases a <;> simp [Ip.packed, Ip.width]

theorem seq_encU6Route (r : U6Route) (b : Bytes) (h : encU6Route r = some b) : Seq (prefixItem 128) b := by
  unfold encU6Route at h
  split at h
  · cases h
  · simp only [Option.ite_none_right_eq_some, Option.some.injEq] at h
    obtain ⟨hr, rfl⟩ := h
    have hp := packed_cases r.pfx.addr
    obtain ⟨n, hn⟩ : ∃ n : Nat, r.pfx.len = n := ⟨r.pfx.len.toNat, by omega⟩
    simp only [hn, Int.toNat_natCast]
    refine Seq.single (by simp [be8]) (fun rest => ?_)
    simp only [be8, List.cons_append, List.nil_append, prefixItem, u8_toNat (show n < 256 by omega),
      show n ≤ 128 by omega, ↓reduceIte]
    refine skip_eq _ _ ?_
    simp only [Mp.ceil8_eq, List.length_take, Walker.ceil8]
    omega

theorem pack24_length (x : Nat) (a : Bytes) (h : pack24 x = some a) : a.length = 3 := by
  simp only [pack24, Option.ite_none_right_eq_some, Option.some.injEq] at h
  obtain ⟨_, rfl⟩ := h
  rfl

theorem encLabels_length (last : Nat → Option Bytes) (hlast : ∀ l x, last l = some x → x.length = 3) :
    ∀ (ls : List Nat) (b : Bytes), encLabels last ls = some b → b.length = 3 * ls.length ∧ 0 < ls.length := by
  intro ls
  induction ls with
  | nil => intro b h; simp [encLabels] at h
  | cons l r ih =>
    intro b h
    cases r with
    | nil => exact ⟨by simp [hlast l b h], by simp⟩
    | cons l2 r2 =>
      simp only [encLabels] at h
      split at h
      · rename_i a c h1 h2
        cases h
        have := ih c h2
        simp only [List.length_append, pack24_length _ a h1, List.length_cons] at this ⊢
        omega
      · cases h

theorem encLastLu_length (l : Nat) (x : Bytes) (h : encLastLu l = some x) : x.length = 3 := by
  unfold encLastLu at h
  split at h
  · cases h; rfl
  · exact pack24_length _ x h

theorem prefixHex_length (af : AF) (p : MPfx) (ph : Bytes) (hg : af = .inet → v4LenOk p = true)
    (h : luPrefixHex af p = some ph) : 0 ≤ p.len ∧ ph.length = Walker.ceil8 p.len.toNat := by
  cases af with
  | inet =>
    have hg' := hg rfl
    simp only [v4LenOk, Bool.and_eq_true, decide_eq_true_eq] at hg'
    simp only [luPrefixHex, Mp.constructPrefixV4, Option.ite_none_right_eq_some, Option.some.injEq] at h
    obtain ⟨_, rfl⟩ := h
    refine ⟨hg'.1, ?_⟩
    rw [prefixOctetsV4_eq hg'.1 hg'.2]
    simp [Walker.ceil8]; omega
  | inet6 =>
    simp only [luPrefixHex, Mp.constructPrefixV6, Option.ite_none_right_eq_some, Option.some.injEq] at h
    obtain ⟨hr, rfl⟩ := h
    refine ⟨hr.1, ?_⟩
    have := packed_cases p.addr
    simp only [List.length_take, Walker.ceil8]
    omega

/-- a route whose length octet counts `8 * pre.length + len` bits: `pre` (labels, route distinguisher) and
    ceil(len/8) prefix octets follow -/
theorem bits_route (minBits : Nat) (pre ph : Bytes) (len : Int) (h0 : 0 ≤ len)
    (hph : ph.length = Walker.ceil8 len.toNat) (hmin : minBits ≤ 8 * pre.length)
    (hlt : (8 * pre.length : Int) + len < 256) :
    Seq (bitsItem minBits) (be8 ((8 * pre.length : Int) + len).toNat ++ pre ++ ph) := by
  obtain ⟨n, rfl⟩ : ∃ n : Nat, len = n := ⟨len.toNat, by omega⟩
  have e : ((8 * pre.length : Int) + (n : Int)).toNat = 8 * pre.length + n := by omega
  rw [e]
  refine Seq.single (by simp [be8]) (fun rest => ?_)
  simp only [be8, List.cons_append, List.nil_append, bitsItem, u8_toNat (show 8 * pre.length + n < 256 by omega),
    List.append_assoc, show minBits ≤ 8 * pre.length + n by omega, ↓reduceIte]
  rw [← List.append_assoc]
  refine skip_eq _ _ ?_
  simp only [List.length_append, hph, Int.toNat_natCast, Walker.ceil8]
  omega

theorem seq_encLuWith (af : AF) (lh : Bytes) (r : LuRoute) (b : Bytes) (hlh : 3 ≤ lh.length)
    (hg : af = .inet → v4LenOk r.pfx = true) (h : encLuWith af (some lh) r = some b) :
    Seq (bitsItem 24) b := by
  unfold encLuWith at h
  split at h
  · rename_i lh' ph hl hp
    cases hl
    simp only [Option.ite_none_right_eq_some, Option.some.injEq] at h
    obtain ⟨hr, rfl⟩ := h
    obtain ⟨h0, hlen⟩ := prefixHex_length af r.pfx ph hg hp
    exact bits_route 24 lh ph r.pfx.len h0 hlen (by omega) hr.2
  · cases h

theorem seq_encLuRoute (af : AF) (r : LuRoute) (b : Bytes) (hg : af = .inet → v4LenOk r.pfx = true)
    (h : encLuRoute af r = some b) : Seq (bitsItem 24) b := by
  unfold encLuRoute at h
  cases hl : encLabels encLastLu r.labels with
  | none => simp [hl, encLuWith] at h
  | some lh =>
    rw [hl] at h
    have := encLabels_length encLastLu encLastLu_length r.labels lh hl
    exact seq_encLuWith af lh r b (by omega) hg h

theorem constructRd_length (rd : Rd) (b : Bytes) (h : constructRd rd = some b) : b.length = 8 := by
  cases rd with
  | asForm asn an =>
    simp only [constructRd] at h
    split at h <;> simp only [Option.ite_none_right_eq_some, Option.some.injEq] at h <;> obtain ⟨_, rfl⟩ := h <;> rfl
  | ipForm ip an =>
    simp only [constructRd, Option.ite_none_right_eq_some, Option.some.injEq] at h
    obtain ⟨_, rfl⟩ := h
    rfl
  | raw _ => cases h

theorem seq_encVpnWith (af : AF) (lh : Bytes) (r : VpnRoute) (b : Bytes) (hlh : 3 ≤ lh.length)
    (hg : af = .inet → v4LenOk r.pfx = true) (h : encVpnWith af (some lh) r = some b) :
    Seq (bitsItem 88) b := by
  unfold encVpnWith at h
  split at h
  · rename_i lh' rh ph hl hrd hp
    cases hl
    simp only [Option.ite_none_right_eq_some, Option.some.injEq] at h
    obtain ⟨hr, rfl⟩ := h
    have hrl := constructRd_length r.rd rh hrd
    obtain ⟨h0, hlen⟩ := prefixHex_length af r.pfx ph hg (by cases af <;> exact hp)
    have e : r.pfx.len + (8 * (lh.length + rh.length) : Int) = (8 * (lh ++ rh).length : Int) + r.pfx.len := by
      simp only [List.length_append]; push_cast; omega
    have hb := bits_route 88 (lh ++ rh) ph r.pfx.len h0 hlen (by simp only [List.length_append]; omega)
      (by rw [← e]; exact hr.2)
    rw [e]
    simpa [List.append_assoc] using hb
  · cases h

theorem seq_encVpnRoute (af : AF) (wd : Bool) (r : VpnRoute) (b : Bytes) (hg : af = .inet → v4LenOk r.pfx = true)
    (h : encVpnRoute af wd r = some b) : Seq (bitsItem 88) b := by
  unfold encVpnRoute at h
  cases wd with
  | true => exact seq_encVpnWith af withdrawLabelHex r b (by decide) hg h
  | false =>
    simp only [Bool.false_eq_true, ↓reduceIte] at h
    cases hl : encLabels encLastVpn r.labels with
    | none => simp [hl, encVpnWith] at h
    | some lh =>
      rw [hl] at h
      have := encLabels_length encLastVpn (fun l => pack24_length _) r.labels lh hl
      exact seq_encVpnWith af lh r b (by omega) hg h

theorem afi_cases (af : AF) : af.afi = 1 ∨ af.afi = 2 := by cases af <;> simp [AF.afi]

theorem nlriOk_labeled (af : AF) (nl : Bytes) (h : all (bitsItem 24) nl = true) : nlriOk af.afi safiLabel nl = true := by
  rcases afi_cases af with e | e <;> simp [nlriOk, e, safiLabel, h]

theorem nlriOk_vpn (af : AF) (nl : Bytes) (h : all (bitsItem 88) nl = true) : nlriOk af.afi safiVpn nl = true := by
  rcases afi_cases af with e | e <;> simp [nlriOk, e, safiVpn, h]

theorem nlriOk_u6 (nl : Bytes) (h : all (prefixItem 128) nl = true) : nlriOk 2 safiUnicast nl = true := by
  simp [nlriOk, safiUnicast, h]

theorem seq_constructU6 (rs : List U6Route) (nl : Bytes) (h : constructU6 rs = some nl) : Seq (prefixItem 128) nl :=
  encAll_seq encU6Route rs (fun x _ => seq_encU6Route x) nl h

/-- what the guards of `constructMpReachR` / `constructMpUnreachR` give each route -/
theorem v4LenOk_of_all {α : Type} (pfx : α → MPfx) (af : AF) (rs : List α)
    (hg : af = .inet → rs.all (fun r => v4LenOk (pfx r)) = true) (x : α) (hx : x ∈ rs) :
    af = .inet → v4LenOk (pfx x) = true :=
  fun ha => List.all_eq_true.mp (hg ha) x hx

theorem seq_constructLu (af : AF) (rs : List LuRoute) (nl : Bytes)
    (hg : af = .inet → rs.all (fun r => v4LenOk r.pfx) = true) (h : constructLu af rs = some nl) :
    Seq (bitsItem 24) nl :=
  encAll_seq (encLuRoute af) rs (fun x hx b => seq_encLuRoute af x b (v4LenOk_of_all _ af rs hg x hx)) nl h

theorem seq_constructLuWithdraw (af : AF) (rs : List LuRoute) (nl : Bytes)
    (hg : af = .inet → rs.all (fun r => v4LenOk r.pfx) = true) (h : constructLuWithdraw af rs = some nl) :
    Seq (bitsItem 24) nl :=
  encAll_seq (encLuWithdraw af) rs (fun x hx b =>
    seq_encLuWith af withdrawLabelHex x b (by decide) (v4LenOk_of_all _ af rs hg x hx)) nl h

theorem seq_constructVpn (af : AF) (wd : Bool) (rs : List VpnRoute) (nl : Bytes)
    (hg : af = .inet → rs.all (fun r => v4LenOk r.pfx) = true) (h : constructVpn af wd rs = some nl) :
    Seq (bitsItem 88) nl :=
  encAll_seq (encVpnRoute af wd) rs (fun x hx b => seq_encVpnRoute af wd x b (v4LenOk_of_all _ af rs hg x hx)) nl h

end Yabgp.Walker

namespace Yabgp

/-- from "the constructor returns something" (evaluated) and a C08 theorem: a concrete valid message exists -/
theorem exists_of_isSome {P : Bytes → Prop} {o : Option Bytes} (hs : o.isSome = true) (h : ∀ w, o = some w → P w) :
    ∃ w, o = some w ∧ P w := by
  obtain ⟨w, hw⟩ := Option.isSome_iff_exists.mp hs
  exact ⟨w, hw, h w hw⟩

theorem exists_of_ok {P : Bytes → Prop} {o : Mp.CRes} (hs : (match o with | .ok _ => true | _ => false) = true)
    (h : ∀ w, o = .ok w → P w) : ∃ w, o = .ok w ∧ P w := by
  cases o with
  | ok w => exact ⟨w, rfl, h w rfl⟩
  | none => simp at hs
  | raise => simp at hs

end Yabgp
