/-
  Big-endian values of any width: the byte arithmetic under the round trips of the
  multiprotocol NLRI (IPv6 / labeled / VPN prefixes, EVPN, flow specification).
  The Mathlib import fixes how `2 ^ k` and `List.sum` on ℕ are read in the definitions of the EVPN and flowspec files
  (`Monoid.npow`, the `Zero ℕ` of `Nat.instMulZeroClass`), as in every file that sees Mathlib.
-/
import Yabgp.Base.Bytes
import Mathlib.Algebra.GroupWithZero.Nat

namespace Yabgp

theorem beVal_beN (k v : Nat) : beVal (beN k v) = v % 256 ^ k := by
  induction k generalizing v with
  | zero => simp [beN, beVal, Nat.mod_one]
  | succ k ih =>
    rw [beN, beVal_snoc, ih, u8_toNat_mod, Nat.pow_succ, Nat.mul_comm (256 ^ k) 256, Nat.mod_mul]
    omega

theorem beVal_take_mul {m k n : Nat} (hk : k ≤ m) (hn : n < 256 ^ m) (hz : n % 256 ^ (m - k) = 0) :
    beVal ((beN m n).take k) * 256 ^ (m - k) = n := by
  rw [beVal_take_beN hk hn, Nat.div_mul_cancel (Nat.dvd_of_mod_eq_zero hz)]

/-- no bits below the mask length means no bits below the last octet it covers: `m` octets, mask length `l` -/
theorem mod_octets_of_network {m a l : Nat} (hn : a % 2 ^ (8 * m - l) = 0) :
    a % 256 ^ (m - (l + 7) / 8) = 0 := by
  rw [show (256 : Nat) = 2 ^ 8 from rfl, ← Nat.pow_mul]
  exact Nat.mod_eq_zero_of_dvd
    (Nat.dvd_trans (Nat.pow_dvd_pow 2 (by omega)) (Nat.dvd_of_mod_eq_zero hn))

end Yabgp
