/-
  The invariant of the reachable states.  `Core.Skel` packs the four control invariants of the skeleton (never stuck,
  at most one live connection, every attempt remembered, a live connection in Connect); every frame outcome and every
  event keeps it (`Skel.frameOutcome`, `Skel.stepOutcome`), the first start establishes it (`skel_first`), hence it
  holds after every enabled run (`skel_of_run`).  A statement about all histories is `run_induction U (skel_step U)`
  plus its one-step lemma.
-/
import Yabgp.Lemmas.LiveCL
import Yabgp.Lemmas.Run

namespace Yabgp
namespace Core

structure Skel (c : Core) : Prop where
  heal : Heal c
  one : One c
  pend : Pend c
  cl : CL c

theorem Skel.frameOutcome {c : Core} (h : Skel c) : ∀ o ∈ c.frameOutcomes, Skel o := fun o ho =>
  ⟨heal_frameOutcome h.heal o ho, one_frameOutcome h.one o ho, pend_frameOutcome h.pend o ho, cl_frameOutcome h.cl o ho⟩

theorem Skel.stepOutcome {c : Core} (h : Skel c) (e : Ev) (hen : enabledC c e) : ∀ o ∈ c.stepOutcome e, Skel o := fun o ho =>
  have op := one_stepOutcome h.one h.pend h.heal e hen o ho
  ⟨heal_stepOutcome h.heal e hen o ho, op.1, op.2, cl_stepOutcome h.cl h.one h.pend h.heal e hen o ho⟩

/-- the skeleton after the agent's first automatic start, or an operator start before it: Connect, connect-retry timer
    armed, the first attempt in flight -/
def started : Core :=
  { st := .connect, retry := true, idleHold := false, allow := true, proto := none, estab := none, pending := some 0,
    conns := [(.connecting, false)] }

theorem skel_started : Skel started where
  heal := .of_connect_retry rfl rfl fun j _ => by cases j <;> rfl
  one := ⟨fun i j hi hj _ _ => (Nat.lt_one_iff.1 hi).trans (Nat.lt_one_iff.1 hj).symm,
    fun j hj hc => by cases Nat.lt_one_iff.1 hj; cases hc⟩
  pend := fun j hj _ => by cases Nat.lt_one_iff.1 hj; rfl
  cl := fun _ => ⟨0, Nat.one_pos, .inl rfl⟩

end Core

open Sess

variable (U : Bool → Bytes → UpdClass)

theorem core_first (cfg : Cfg) (e0 : Ev) (he0 : e0 = .boot ∨ e0 = .manualStart) :
    core (step U (bootWorld cfg) e0).sess = Core.started := by
  -- evaluated on the skeleton of the initial state, which is closed: the configuration does not enter
  have h0 : core ((boot cfg).withOuts []) = ⟨.idle, false, false, true, none, none, none, []⟩ := rfl
  rcases he0 with rfl | rfl
  · show core (((boot cfg).withOuts []).autoStart false) = _
    rw [core_autoStart, h0]; rfl
  · show core ((boot cfg).withOuts []).manualStart = _
    rw [core_manualStart, h0]; rfl

theorem skel_first (cfg : Cfg) (e0 : Ev) (he0 : e0 = .boot ∨ e0 = .manualStart) :
    Core.Skel (core (step U (bootWorld cfg) e0).sess) :=
  core_first U cfg e0 he0 ▸ Core.skel_started

theorem skel_step (w : World) (e : Ev) (hen : enabled w.sess e = true) (h : Core.Skel (core w.sess)) :
    Core.Skel (core (step U w e).sess) :=
  core_step_inv U Core.Skel (fun _ hc => hc.frameOutcome) w e hen (fun hc he => hc.stepOutcome e he) h

theorem skel_run (evs : List Ev) (w : World) (h : Core.Skel (core w.sess)) (hen : EnabledRun U w evs) :
    Core.Skel (core (run U w evs).sess) :=
  run_induction U (I := fun w => Core.Skel (core w.sess)) (Q := fun w evs => Core.Skel (core (run U w evs).sess))
    (skel_step U) (fun _ h => h) (fun _ _ _ _ _ h => h) evs w h hen

theorem skel_of_run (cfg : Cfg) (e0 : Ev) (he0 : e0 = .boot ∨ e0 = .manualStart) (evs : List Ev)
    (hen : EnabledRun U (step U (bootWorld cfg) e0) evs) : Core.Skel (core (run U (bootWorld cfg) (e0 :: evs)).sess) :=
  skel_run U evs _ (skel_first U cfg e0 he0) hen

end Yabgp
