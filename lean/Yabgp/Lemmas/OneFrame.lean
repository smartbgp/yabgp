/-
  One whole message delivered in one segment on an empty receive buffer: the receive loop performs exactly
  the dispatch of that message.
-/
import Yabgp.Lemmas.Framing

namespace Yabgp
namespace Sess

/-- the wire form of a message of type `ty` with body `body` (RFC 4271 §4.1) -/
def wireOf (ty : Nat) (body : Bytes) : Bytes := marker ++ be16 (body.length + 19) ++ [u8 ty] ++ body

theorem headOf_wireOf (ty : Nat) (body : Bytes) (hty : ty < 256) (hl : body.length + 19 ≤ 4096) :
    headOf (wireOf ty body) = .frame ty body (body.length + 19) := by
  have hlen : (wireOf ty body).length = body.length + 19 := by simp [wireOf, marker, be16]
  have h16 : (wireOf ty body).getD 16 0 = u8 ((body.length + 19) / 256) := rfl
  have h17 : (wireOf ty body).getD 17 0 = u8 (body.length + 19) := rfl
  have h18 : (wireOf ty body).getD 18 0 = u8 ty := rfl
  have hfl : frameLen (wireOf ty body) = body.length + 19 := by
    unfold frameLen
    rw [h16, h17]
    simp only [u8_toNat_mod]
    omega
  have htake : (wireOf ty body).take 16 = marker := rfl
  unfold headOf
  rw [if_neg (by simp [C.hdrLen, hlen]), if_neg (by simp [htake]), hfl,
    if_neg (by simp [C.hdrLen, C.maxLen]; omega), if_neg (by simp [hlen])]
  rw [h18, u8_toNat hty]
  congr 1
  rw [List.take_of_length_le (by simp [hlen])]
  simp [wireOf, marker, be16, C.hdrLen, List.replicate]

theorem dataReceived_one (U : Bool → Bytes → UpdClass) (s : Sess) (i ty : Nat) (body : Bytes)
    (hty : ty < 256) (hl : body.length + 19 ≤ 4096) (hnd : (s.conn i).disconnected = false)
    (hcont : (dispatch U s i ty body).2 = true) :
    dataReceived U s i [] (wireOf ty body) = ((dispatch U s i ty body).1, []) := by
  unfold dataReceived
  simp only [List.nil_append]
  have hlen : (wireOf ty body).length = body.length + 19 := by simp [wireOf, marker, be16]
  have hpb : parseBuffer U s i (wireOf ty body) = ((dispatch U s i ty body).1, some []) := by
    unfold parseBuffer
    rw [if_neg (by simp [hnd]), headOf_wireOf ty body hty hl]
    simp only [hcont, ↓reduceIte]
    rw [List.drop_of_length_le (by simp [hlen])]
  have hpb2 : ∀ t : Sess, (parseBuffer U t i []).1 = t ∧ (parseBuffer U t i []).2 = none := by
    intro t
    unfold parseBuffer
    split
    · exact ⟨rfl, rfl⟩
    · have : headOf [] = .short := by simp [headOf, C.hdrLen]
      rw [this]; exact ⟨rfl, rfl⟩
  have hf : (wireOf ty body).length / 19 + 1 = ((wireOf ty body).length / 19 - 1) + 1 + 1 := by
    rw [hlen]; omega
  rw [hf]
  unfold drain
  rw [hpb]
  simp only
  unfold drain
  rw [(hpb2 _).2]
  simp only [(hpb2 _).1]

end Sess
end Yabgp
