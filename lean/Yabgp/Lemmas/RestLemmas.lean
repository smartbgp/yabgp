/-
  Helper lemmas for Props/C16.lean: how the decorator chain of the REST model filters a request, what each view can
  do to the session, and what becomes of a whole request: `handle_cases` with `runView_state` (the views that do not
  send) and `runView_send_cases` (those that do) is what the REST parts of C03, C16 and C18 start from; `core_handle`
  is its reading on the control skeleton of Lemmas/Core.lean.
-/
import Yabgp.Model.Rest
import Yabgp.Lemmas.OutsExt
import Yabgp.Lemmas.Ext
import Yabgp.Lemmas.Core

namespace Yabgp.Rest
open Yabgp.Sess

@[simp] theorem success_ok_statusTrue : (ok .statusTrue).success = true := rfl
@[simp] theorem success_refused (w : Why) : (refused w).success = false := rfl
@[simp] theorem success_serverError : serverError.success = false := rfl
@[simp] theorem success_unmodelled : unmodelled.success = false := rfl
@[simp] theorem success_401 : (⟨401, .unauthorized⟩ : Response).success = false := rfl
@[simp] theorem success_415 : (⟨415, .error⟩ : Response).success = false := rfl
@[simp] theorem success_400 : (⟨400, .error⟩ : Response).success = false := rfl
@[simp] theorem success_405 : (⟨405, .error⟩ : Response).success = false := rfl
@[simp] theorem success_ok_bin (b : Bytes) : (ok (.bin b)).success = false := by simp [ok, Response.success]
@[simp] theorem success_ok_empty : (ok .empty).success = false := rfl

theorem noDocument_not_success {b : Body} {e : Response} (h : noDocument b = some e) : e.success = false := by
  cases b <;> cases h <;> rfl

/-- what a decorator wants to see before it hands the request on: `login_required` valid credentials (or an OPTIONS
    request), `makesure_peer_establish` an Established session; `log_request` only looks -/
def Deco.admits (rc : RestCfg) (req : Request) (s : Sess) : Deco → Prop
  | .loginRequired => req.method = "OPTIONS" ∨ validCreds rc req.auth = true
  | .logRequest => True
  | .makesureEstablished => s.st = .established
  | .unknown => False

theorem chain_cases (rc : RestCfg) (v : View) (req : Request) (s : Sess) :
    ∀ ds : List Deco,
      (runChain rc ds v req s = runView v req s ∧ ∀ d ∈ ds, d.admits rc req s) ∨
      ((runChain rc ds v req s).2 = s ∧ (runChain rc ds v req s).1.success = false)
  | [] => Or.inl ⟨rfl, nofun⟩
  | d :: ds => by
    -- a decorator that hands the request on adds what it saw to what the rest of the chain sees
    have pass : d.admits rc req s →
        (runChain rc ds v req s = runView v req s ∧ ∀ d' ∈ d :: ds, d'.admits rc req s) ∨
        ((runChain rc ds v req s).2 = s ∧ (runChain rc ds v req s).1.success = false) := fun ha =>
      (chain_cases rc v req s ds).imp_left fun h => ⟨h.1, List.forall_mem_cons.2 ⟨ha, h.2⟩⟩
    cases d
    · by_cases hm : req.method = "OPTIONS"
      · rw [runChain, if_pos hm]
        exact pass (.inl hm)
      · by_cases hv : validCreds rc req.auth = true
        · rw [runChain, if_neg hm, if_pos hv]
          exact pass (.inr hv)
        · rw [runChain, if_neg hm, if_neg hv]
          exact Or.inr ⟨rfl, rfl⟩
    · by_cases hm : req.method = "POST"
      · cases hd : noDocument req.body with
        | some e =>
          rw [runChain, if_pos hm, hd]
          exact Or.inr ⟨rfl, noDocument_not_success hd⟩
        | none =>
          rw [runChain, if_pos hm, hd]
          exact pass trivial
      · rw [runChain, if_neg hm]
        exact pass trivial
    · by_cases hs : s.st = .established
      · rw [runChain, if_pos hs]
        exact pass hs
      · rw [runChain, if_neg hs]
        exact Or.inr ⟨rfl, rfl⟩
    · exact Or.inr ⟨rfl, rfl⟩

theorem chain_login_rejects (rc : RestCfg) (ds : List Deco) (v : View) (req : Request) (s : Sess)
    (hm : req.method ≠ "OPTIONS") (hv : validCreds rc req.auth = false) :
    runChain rc (.loginRequired :: ds) v req s = (⟨401, .unauthorized⟩, s) := by
  simp [runChain, hm, hv]

theorem chain_gate (rc : RestCfg) (ds : List Deco) (v : View) (req : Request) (s : Sess)
    (hg : Deco.makesureEstablished ∈ ds) (hs : s.st ≠ .established) :
    (runChain rc ds v req s).2 = s ∧ (runChain rc ds v req s).1.success = false := by
  rcases chain_cases rc v req s ds with h | h
  · exact absurd (h.2 _ hg) hs
  · exact h

theorem stripHead_snd (req : Request) (r : Response × Sess) : (stripHead req r).2 = r.2 := by
  unfold stripHead; split <;> rfl

theorem stripHead_status (req : Request) (r : Response × Sess) : (stripHead req r).1.status = r.1.status := by
  unfold stripHead; split <;> rfl

theorem stripHead_success (req : Request) (r : Response × Sess) (h : (stripHead req r).1.success = true) :
    (stripHead req r) = r := by
  unfold stripHead at h ⊢
  split
  · rename_i hh; simp [hh, Response.success] at h
  · rfl

theorem stripHead_not_success (req : Request) (r : Response × Sess) (h : r.1.success = false) :
    (stripHead req r).1.success = false := by
  cases hx : (stripHead req r).1.success
  · rfl
  · rw [stripHead_success req r hx, h] at hx; cases hx

def NotWrite (o : Out) : Prop := ∀ c b, o ≠ .write c b

/-- the actions that send nothing (Lemmas/Ext.lean) - among them the operator's start, and the operator's stop after its
    NOTIFICATION - write nothing -/
theorem notWrite_tame : TameEv (fun _ : Conn => ()) NotWrite where
  phase _ _ := rfl
  disc _ _ := rfl
  lose _ _ _ := nofun
  hEstablished _ _ := nofun
  connect _ _ _ := nofun
  hConnLost _ _ _ := nofun
  hConnFailed _ _ := nofun
  retStart _ _ _ := nofun
  retStop _ _ := nofun

theorem viewVersion_snd (req : Request) (s : Sess) : (viewVersion req s).2 = s := by
  unfold viewVersion; split
  · split <;> rfl
  · rfl

theorem viewStatistic_snd (s : Sess) : (viewStatistic s).2 = s := by
  unfold viewStatistic; split <;> rfl

theorem viewAdjRib_snd (req : Request) (s : Sess) : (viewAdjRib req s).2 = s := by
  unfold viewAdjRib; split <;> try rfl
  split <;> rfl

theorem updToBin_snd (s : Sess) (m : UpdMsg) : (updToBin s m).2 = s := by
  unfold updToBin; split
  · rfl
  · split <;> rfl

theorem viewJsonToBin_snd (req : Request) (s : Sess) : (viewJsonToBin req s).2 = s := by
  unfold viewJsonToBin; split <;> try rfl
  split
  · rfl
  · split
    · exact updToBin_snd s _
    · rfl

theorem viewManualStart_snd (s : Sess) : (viewManualStart s).2 = s.manualStart := by
  unfold viewManualStart; split <;> rfl

theorem viewManualStop_snd (s : Sess) : (viewManualStop s).2 = s ∨ (viewManualStop s).2 = s.manualStop := by
  unfold viewManualStop; split
  · exact Or.inl rfl
  · exact Or.inr rfl

theorem runView_state (v : View) (req : Request) (s : Sess) (hv : v.isSend = false) :
    (runView v req s).2 = s ∨ (v = .manualStart ∧ (runView v req s).2 = s.manualStart) ∨
    (v = .manualStop ∧ (runView v req s).2 = s.manualStop) := by
  cases v <;> simp only [View.isSend, Bool.true_eq_false] at hv <;> simp only [runView]
  · exact Or.inl trivial
  · exact Or.inl (viewVersion_snd req s)
  · exact Or.inl (viewStatistic_snd s)
  · exact Or.inr (Or.inl ⟨trivial, viewManualStart_snd s⟩)
  · exact (viewManualStop_snd s).imp_right fun h => Or.inr ⟨trivial, h⟩
  · exact Or.inl (viewAdjRib_snd req s)
  · exact Or.inl (viewAdjRib_snd req s)
  · exact Or.inl (viewJsonToBin_snd req s)
  · exact Or.inl trivial
  · exact Or.inl trivial
  · exact Or.inl trivial
  · exact Or.inl trivial

/-- `autoOptions`: where the rule says so Flask answers OPTIONS itself; elsewhere `login_required` lets an OPTIONS
    request through without credentials -/
theorem handle_cases (rc : RestCfg) (r : Route) (req : Request) (s : Sess) :
    ((handle rc r req s).2 = s ∧ (handle rc r req s).1.success = false) ∨
    (handle rc r req s = stripHead req (runView (View.ofName r.view) req s) ∧
      (Deco.loginRequired ∈ r.decorators.map Deco.ofName → r.autoOptions = true → validCreds rc req.auth = true) ∧
      (Deco.makesureEstablished ∈ r.decorators.map Deco.ofName → s.st = .established)) := by
  unfold handle
  split
  · exact Or.inl ⟨stripHead_snd _ _, stripHead_not_success req _ rfl⟩
  · split
    · exact Or.inl ⟨rfl, rfl⟩
    · rename_i ho
      rcases chain_cases rc (View.ofName r.view) req s (r.decorators.map Deco.ofName) with h | h
      · exact Or.inr ⟨by rw [h.1], fun hl ha => (h.2 _ hl).resolve_left fun e => ho ⟨e, ha⟩, h.2 _⟩
      · exact Or.inl ⟨by rw [stripHead_snd, h.1], stripHead_not_success req _ h.2⟩

end Yabgp.Rest

namespace Yabgp
open Sess Rest

theorem writeOn_norm {s : Sess} {i : Nat} (h : Norm s i) (b : Bytes) : s.writeOn i b = s.emit (.write i b) := by
  simp [writeOn, transportUp, h.up]

theorem constructHeader_ne_nil {ty : Nat} {body w : Bytes} (h : constructHeader ty body = some w) : w ≠ [] := by
  unfold constructHeader at h
  split at h
  · cases h
    intro e
    simp only [List.append_eq_nil_iff] at e
    exact nomatch e.1.1.1   -- the marker is not empty
  · cases h

theorem constructUpdate_ne_nil {asn4 ap : Bool} {m : UpdMsg} {w : Bytes} (h : constructUpdate asn4 ap m = some w) :
    w ≠ [] := by
  obtain ⟨_, _, h⟩ := Option.bind_eq_some_iff.1 h
  exact constructHeader_ne_nil h

theorem constructRouteRefresh_ne_nil {ty afi res safi : Nat} {w : Bytes}
    (h : constructRouteRefresh ty afi res safi = some w) : w ≠ [] := by
  unfold constructRouteRefresh at h
  split at h
  · exact constructHeader_ne_nil h
  · cases h

/-- what a request asks a send view to put on the wire, in session state `s` whose tracked connection is `i` -/
def C16.Requested (s : Sess) (i : Nat) (req : Request) : View → Bytes → Prop
  | .sendUpdate, w => ∃ o, req.body = .obj o ∧
      constructUpdate (s.conn i).asn4 false (requestedUpdate s.cfg o) = some w
  | .sendRouteRefresh, w => ∃ o a sf ty l, req.body = .obj o ∧ o.afi = some a ∧ o.safi = some sf ∧
      rrType s.remote = some ty ∧ s.remote.afiSafi = some l ∧ (a, sf) ∈ l ∧
      constructRouteRefresh ty a (o.res.getD 0) sf = some w
  | .sendBinUpdate, w => ∃ o, req.body = .obj o ∧ o.bin = .bytes w
  | _, _ => False

def C16.counted (s : Sess) (i : Nat) : View → Sess
  | .sendUpdate => s.bumpSent i incUpdates
  | .sendRouteRefresh => s.bumpSent i incRouteRefresh
  | .sendBinUpdate => s.bumpSent i incUpdates
  | _ => s

theorem outs_counted (s : Sess) (i : Nat) (v : View) : (C16.counted s i v).outs = s.outs := by
  cases v <;> rfl

theorem runView_send_cases (v : View) (hv : v.isSend = true) (req : Request) (s : Sess) :
    ((runView v req s).1.success = false ∧ (runView v req s).2 = s) ∨
    ∃ i w, s.proto = some i ∧ C16.Requested s i req v w ∧
      runView v req s = (ok .statusTrue, if w = [] then s else C16.counted (s.writeOn i w) i v) := by
  cases v <;> simp only [View.isSend, Bool.false_eq_true] at hv <;> simp only [runView]
  · unfold viewSendRouteRefresh rrSend
    split
    · exact Or.inl ⟨rfl, rfl⟩
    · exact Or.inl ⟨rfl, rfl⟩
    · exact Or.inl ⟨rfl, rfl⟩
    · exact Or.inl ⟨rfl, rfl⟩
    · exact Or.inl ⟨rfl, rfl⟩
    · exact Or.inl ⟨rfl, rfl⟩
    · rename_i o hb
      split
      · rename_i a sf ha hsf
        split
        · exact Or.inl ⟨rfl, rfl⟩
        · rename_i i hp
          split
          · exact Or.inl ⟨rfl, rfl⟩
          · rename_i ty hty
            split
            · exact Or.inl ⟨rfl, rfl⟩
            · rename_i l hl
              split
              · rename_i hmem
                split
                · rename_i w hc
                  exact Or.inr ⟨i, w, hp, ⟨o, a, sf, ty, l, hb, ha, hsf, hty, hl, hmem, hc⟩,
                    by rw [if_neg (constructRouteRefresh_ne_nil hc)]; rfl⟩
                · exact Or.inl ⟨rfl, rfl⟩
              · exact Or.inl ⟨rfl, rfl⟩
      · exact Or.inl ⟨rfl, rfl⟩
  · unfold viewSendUpdate updSend
    split
    · exact Or.inl ⟨rfl, rfl⟩
    · exact Or.inl ⟨rfl, rfl⟩
    · exact Or.inl ⟨rfl, rfl⟩
    · rename_i o hb
      split
      · exact Or.inl ⟨rfl, rfl⟩
      · split
        · split
          · exact Or.inl ⟨rfl, rfl⟩
          · rename_i i hp
            split
            · rename_i w hc
              exact Or.inr ⟨i, w, hp, ⟨o, hb, hc⟩, by rw [if_neg (constructUpdate_ne_nil hc)]; rfl⟩
            · exact Or.inl ⟨rfl, rfl⟩
        · exact Or.inl ⟨rfl, rfl⟩
  · unfold viewSendBinUpdate binSend
    split
    · exact Or.inl ⟨rfl, rfl⟩
    · exact Or.inl ⟨rfl, rfl⟩
    · exact Or.inl ⟨rfl, rfl⟩
    · rename_i o hb
      split
      · exact Or.inl ⟨rfl, rfl⟩
      · exact Or.inl ⟨rfl, rfl⟩
      · exact Or.inl ⟨rfl, rfl⟩
      · rename_i b hbin
        split
        · exact Or.inl ⟨rfl, rfl⟩
        · rename_i i hp
          refine Or.inr ⟨i, b, hp, ⟨o, hb, hbin⟩, ?_⟩
          split <;> rfl

theorem runView_send_state (v : View) (hv : v.isSend = true) (req : Request) (s : Sess) :
    (runView v req s).2 = s ∨ ∃ i w f, s.proto = some i ∧ (runView v req s).2 = (s.writeOn i w).bumpSent i f := by
  rcases runView_send_cases v hv req s with h | ⟨i, w, hp, _, h⟩
  · exact Or.inl h.2
  · rw [h]
    by_cases hw : w = []
    · exact Or.inl (if_pos hw)
    · cases v <;> cases hv <;> exact Or.inr ⟨i, w, _, hp, if_neg hw⟩

theorem core_handle (rc : RestCfg) (r : Route) (req : Request) (s : Sess) :
    core (handle rc r req s).2 = core s ∨ core (handle rc r req s).2 = (core s).manualStart ∨
    core (handle rc r req s).2 = (core s).manualStop := by
  rcases handle_cases rc r req s with ⟨e, _⟩ | ⟨e, _⟩
  · rw [e]; exact Or.inl rfl
  · rw [e, stripHead_snd]
    cases hv : (View.ofName r.view).isSend
    · rcases runView_state _ req s hv with e | ⟨_, e⟩ | ⟨_, e⟩ <;> rw [e]
      · exact Or.inl rfl
      · exact Or.inr (Or.inl (core_manualStart s))
      · exact Or.inr (Or.inr (core_manualStop s))
    · rcases runView_send_state _ hv req s with e | ⟨i, w, f, _, e⟩ <;> rw [e]
      · exact Or.inl rfl
      · exact Or.inl (by rw [core_bumpSent, core_writeOn])

theorem core_restStep_inv (P : Core → Prop) (rc : RestCfg) (r : Route) (req : Request) (w : World)
    (hE : ∀ e, (core w.sess).enabledC e → ∀ o ∈ (core w.sess).stepOutcome e, P o) (h : P (core w.sess)) :
    P (core (restStep rc r req w).2.sess) := by
  show P (core (handle rc r req (w.sess.withOuts [])).2)
  rcases core_handle rc r req (w.sess.withOuts []) with e | e | e <;> rw [e]
  · exact h
  · exact hE .manualStart trivial _ (.head _)
  · exact hE .manualStop trivial _ (.head _)

end Yabgp
