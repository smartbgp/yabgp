/-
  Helper lemmas for C17: the Python string operations of Model/ExtComm.lean on rendered text, the
  binary32 <-> int conversions on exactly representable values, MAC text, and the decoder on reference octets.
-/
import Yabgp.Lemmas.TextRt
import Yabgp.Model.ExtComm
import Yabgp.Spec.RfcExtComm

namespace Yabgp.ExtComm
open Yabgp.Text

def NoWs (s : List Char) : Prop := ∀ c ∈ s, isWs c = false

theorem NoWs.append {s t : List Char} (hs : NoWs s) (ht : NoWs t) : NoWs (s ++ t) :=
  List.forall_mem_append.mpr ⟨hs, ht⟩

theorem NoWs.cons {c : Char} {s : List Char} (hc : isWs c = false) (hs : NoWs s) : NoWs (c :: s) :=
  List.forall_mem_cons.mpr ⟨hc, hs⟩

theorem NoWs.nil : NoWs [] := fun _ h => nomatch h

theorem isWs_digit {c : Char} (h : IsDigit c) : isWs c = false := by
  have n : ∀ d : Char, d.toNat < 48 → c ≠ d := fun d hd => h.ne (.inl hd)
  simp [isWs, n ' ' (by decide), n '\t' (by decide), n '\n' (by decide), n '\r' (by decide)]
  unfold IsDigit at h; omega

theorem noWs_decStr (n : Nat) : NoWs (decStr n) := fun c hc => isWs_digit (decStr_allDigits n c hc)

theorem noWs_ipv4Str (n : Nat) : NoWs (ipv4Str n) := by
  unfold ipv4Str
  have hd : isWs '.' = false := by decide
  exact ((((((noWs_decStr _).append (NoWs.cons hd NoWs.nil)).append (noWs_decStr _)).append
    (NoWs.cons hd NoWs.nil)).append (noWs_decStr _)).append (NoWs.cons hd NoWs.nil)).append (noWs_decStr _)

theorem dropWhile_noWs {s : List Char} (h : NoWs s) : s.dropWhile isWs = s := by
  cases s with
  | nil => rfl
  | cons c r => simp [List.dropWhile, h c (by simp)]

theorem strip_noWs {s : List Char} (h : NoWs s) : strip s = s := by
  unfold strip lstrip
  rw [dropWhile_noWs h]
  have hr : NoWs s.reverse := fun c hc => h c (by simpa using hc)
  rw [dropWhile_noWs hr, List.reverse_reverse]

theorem lowerChar_digit {c : Char} (h : IsDigit c) : lowerChar c = c := by
  unfold lowerChar; unfold IsDigit at h; rw [if_neg (by omega)]

theorem lower_digits {s : List Char} (h : AllDigits s) : lower s = s := by
  unfold lower
  induction s with
  | nil => rfl
  | cons c r ih =>
    rw [List.map_cons, lowerChar_digit (h c (by simp)), ih (fun d hd => h d (by simp [hd]))]

theorem lower_append (s t : List Char) : lower (s ++ t) = lower s ++ lower t := by simp [lower]

theorem lower_cons (c : Char) (s : List Char) : lower (c :: s) = lowerChar c :: lower s := by simp [lower]

theorem unders_plain : ∀ (s : List Char) (prev : Bool), '_' ∉ s → (prev = true ∨ s ≠ []) → unders prev s = some s := by
  intro s
  induction s with
  | nil => intro prev _ h; simp at h; simp [unders, h]
  | cons c r ih =>
    intro prev hn _
    have hc : c ≠ '_' := fun e => hn (by simp [e])
    have hr : '_' ∉ r := fun e => hn (by simp [e])
    simp [unders, hc, ih true hr (Or.inl rfl)]

theorem pyDigits_decStr (n : Nat) : pyDigits (decStr n) = some n := by
  unfold pyDigits
  rw [unders_plain _ false ((decStr_allDigits n).not_mem (by decide)) (Or.inr (decStr_ne_nil n))]
  simp [parseDec_decStr]

/-- `int(str(n)) == n` with Python's full `int()` -/
theorem pyInt_decStr (n : Nat) : pyInt (decStr n) = some (Int.ofNat n) := by
  unfold pyInt
  rw [strip_noWs (noWs_decStr n)]
  obtain ⟨c, r, hcr, hc⟩ := decStr_head_isDigit n
  have h1 : c ≠ '-' := hc.ne (by decide)
  have h2 : c ≠ '+' := hc.ne (by decide)
  rw [hcr]
  simp only [pyIntCore, h1, h2, ↓reduceIte]
  rw [← hcr, pyDigits_decStr]; rfl

theorem inRange_ofNat {b n : Nat} (h : n < b) : inRange b (some (Int.ofNat n)) = some n := by
  simp only [inRange]
  rw [if_pos]
  · simp
  · constructor
    · exact Int.natCast_nonneg n
    · exact Int.ofNat_lt.mpr h

theorem pyIpv4_ipv4Str {n : Nat} (h : n < 4294967296) : pyIpv4 (ipv4Str n) = some n := by
  simp [pyIpv4, parseIpv4_ipv4Str h]

theorem firstField_append {a : List Char} (b : List Char) (h : ':' ∉ a) : firstField ':' (a ++ ':' :: b) = a := by
  simp [firstField, splitOnFirst_append b h]

theorem split2_append {a b : List Char} (ha : ':' ∉ a) (hb : ':' ∉ b) : split2 (a ++ ':' :: b) = some (a, b) := by
  simp [split2, splitAll_append b ha, splitAll_single hb]

open Yabgp.RfcExt

/-- the 24-bit significand of an exactly representable positive number -/
theorem f32_mant {n : Nat} (hn : n ≠ 0) (hex : (n * 2 ^ 23) % 2 ^ Nat.log2 n = 0) :
    ∃ M, 8388608 ≤ M ∧ M < 16777216 ∧ n * 2 ^ 23 / 2 ^ Nat.log2 n = M ∧
      (Nat.log2 n ≤ 23 → n * 2 ^ (23 - Nat.log2 n) = M) ∧
      (23 ≤ Nat.log2 n → n = M * 2 ^ (Nat.log2 n - 23)) := by
  have hP : 0 < 2 ^ Nat.log2 n := Nat.pow_pos (by decide)
  have h1 : 2 ^ Nat.log2 n ≤ n := Nat.log2_self_le hn
  have h2 : n < 2 ^ Nat.log2 n * 2 := by
    have := @Nat.lt_log2_self n; rwa [Nat.pow_succ] at this
  have hM : n * 2 ^ 23 / 2 ^ Nat.log2 n * 2 ^ Nat.log2 n = n * 2 ^ 23 :=
    Nat.div_mul_cancel (Nat.dvd_of_mod_eq_zero hex)
  refine ⟨n * 2 ^ 23 / 2 ^ Nat.log2 n, ?_, ?_, rfl, ?_, ?_⟩
  · rw [Nat.le_div_iff_mul_le hP]; omega
  · rw [Nat.div_lt_iff_lt_mul hP]; omega
  · intro hk
    have e : 2 ^ (23 - Nat.log2 n) * 2 ^ Nat.log2 n = 2 ^ 23 := Nat.pow_sub_mul_pow 2 hk
    apply Nat.eq_of_mul_eq_mul_right hP
    rw [hM, Nat.mul_assoc, e]
  · intro hk
    have e : 2 ^ (Nat.log2 n - 23) * 2 ^ 23 = 2 ^ Nat.log2 n := Nat.pow_sub_mul_pow 2 hk
    apply Nat.eq_of_mul_eq_mul_right (show 0 < 2 ^ 23 by decide)
    rw [Nat.mul_assoc, e, hM]

theorem roundAt_of_dvd {sh n : Nat} (h : 2 ^ sh ∣ n) : roundAt sh n = n := by
  unfold roundAt
  have h0 : n % 2 ^ sh = 0 := Nat.mod_eq_zero_of_dvd h
  have hp : 0 < 2 ^ (sh - 1) := Nat.pow_pos (by decide)
  rw [h0, if_neg (by omega), Nat.div_mul_cancel h]

theorem roundBits_exact {n : Nat} (p : Nat) (h24 : 24 ≤ p) (hn : n ≠ 0)
    (hex : (n * 2 ^ 23) % 2 ^ Nat.log2 n = 0) : roundBits p n = n := by
  unfold roundBits
  split
  · rfl
  · rename_i hge
    have hk : p ≤ Nat.log2 n := (Nat.le_log2 hn).mpr (Nat.not_lt.mp hge)
    obtain ⟨M, _, _, _, _, hB⟩ := f32_mant hn hex
    apply roundAt_of_dvd
    have hB' := hB (by omega)
    have e : 2 ^ (Nat.log2 n - 23) = 2 ^ (p - 24) * 2 ^ (Nat.log2 n + 1 - p) := by
      rw [← Nat.pow_add]; congr 1; omega
    refine ⟨M * 2 ^ (p - 24), ?_⟩
    calc n = M * 2 ^ (Nat.log2 n - 23) := hB'
      _ = 2 ^ (Nat.log2 n + 1 - p) * (M * 2 ^ (p - 24)) := by rw [e]; ac_rfl

/-- reading a pattern by its fields: sign 0, biased exponent `e` (neither 0 nor 255), fraction `fr` -/
theorem unpackF_fields {bits e fr : Nat} (h1 : bits / 2 ^ 23 % 256 = e) (h2 : bits % 2 ^ 23 = fr)
    (h3 : bits / 2 ^ 31 % 2 = 0) (he0 : e ≠ 0) (he : e ≠ 255) :
    unpackF bits = some (false, if 150 ≤ e then (2 ^ 23 + fr) * 2 ^ (e - 150) else (2 ^ 23 + fr) / 2 ^ (150 - e)) := by
  unfold unpackF
  rw [h1, h2, h3, if_neg he, if_neg he0]
  split <;> rfl

theorem unpackF_normal {k M : Nat} (hk : k < 128) (h1 : 8388608 ≤ M) (h2 : M < 16777216) :
    unpackF ((127 + k) * 8388608 + (M - 8388608)) =
      some (false, if 23 ≤ k then M * 2 ^ (k - 23) else M / 2 ^ (23 - k)) := by
  rw [unpackF_fields (e := 127 + k) (fr := M - 8388608) (by omega) (by omega) (by omega) (by omega) (by omega),
    show 2 ^ 23 + (M - 8388608) = M by omega]
  by_cases h : 23 ≤ k
  · rw [if_pos (by omega), if_pos h, show 127 + k - 150 = k - 23 by omega]
  · rw [if_neg (by omega), if_neg h, show 150 - (127 + k) = 23 - k by omega]

theorem f32BitsPos_ieee32 {n : Nat} (hn : n ≠ 0) (hlt : n < 2 ^ 128) (hex : (n * 2 ^ 23) % 2 ^ Nat.log2 n = 0) :
    f32BitsPos n = ieee32 n ∧ ieee32 n < 2139095040 ∧ unpackF (ieee32 n) = some (false, n) := by
  obtain ⟨M, hM1, hM2, hM, hA, hB⟩ := f32_mant hn hex
  have hk : Nat.log2 n < 128 := (Nat.log2_lt hn).mpr hlt
  have hi : ieee32 n = (127 + Nat.log2 n) * 8388608 + (M - 8388608) := by
    unfold ieee32; rw [if_neg hn, hM]; omega
  refine ⟨?_, by rw [hi]; omega, ?_⟩
  · rw [hi]
    unfold f32BitsPos f32Frac
    split
    · rename_i h; rw [hA h]
    · rename_i h
      rw [show n / 2 ^ (Nat.log2 n - 23) = M by
        conv => lhs; lhs; rw [hB (by omega)]
        exact Nat.mul_div_cancel _ (Nat.pow_pos (by decide))]
  · rw [hi, unpackF_normal hk hM1 hM2]
    split
    · rename_i h; rw [← hB h]
    · rename_i h; rw [← hA (by omega), Nat.mul_div_cancel _ (Nat.pow_pos (by decide))]

theorem f32Exact_iff {n : Nat} : f32Exact n = true ↔ n < 2 ^ 128 ∧ (n * 2 ^ 23) % 2 ^ Nat.log2 n = 0 := by
  simp [f32Exact]

set_option exponentiation.threshold 1100 in
/-- `struct.pack('!f', n)` of an exactly representable natural number is its IEEE 754 pattern -/
theorem packF_exact {n : Nat} (h : f32Exact n = true) : packF (Int.ofNat n) = some (ieee32 n) := by
  obtain ⟨hlt, hex⟩ := f32Exact_iff.mp h
  by_cases hn : n = 0
  · subst hn; simp [packF, ieee32]
  · have hi : (Int.ofNat n) ≠ 0 := by simpa using hn
    have hneg : ¬ (Int.ofNat n < 0) := by simp
    unfold packF
    rw [if_neg hi]
    simp only [Int.ofNat_eq_natCast, Int.natAbs_natCast]
    rw [roundBits_exact 53 (by omega) hn hex, roundBits_exact 24 (by omega) hn hex]
    have hbig : (2:Nat) ^ 128 ≤ 2 ^ 1024 := Nat.pow_le_pow_right (by decide) (by decide)
    rw [if_neg (by omega), if_neg (by omega)]
    have hneg' : ¬ ((n : Int) < 0) := by omega
    rw [if_neg hneg', (f32BitsPos_ieee32 hn hlt hex).1]; rfl

/-- and `int(struct.unpack('!f', ...))` of that pattern is the number -/
theorem unpackF_exact {n : Nat} (h : f32Exact n = true) : unpackF (ieee32 n) = some (false, n) ∧ ieee32 n < 4294967296 := by
  obtain ⟨hlt, hex⟩ := f32Exact_iff.mp h
  by_cases hn : n = 0
  · subst hn; simp [unpackF, ieee32]
  · have := f32BitsPos_ieee32 hn hlt hex
    exact ⟨this.2.2, by omega⟩

theorem hexUp_spec : ∀ d < 16, hexVal (hexUp d) = some d ∧ isWs (hexUp d) = false ∧
    hexUp d ∉ ['-', '+', '_', 'x', 'X', ',', ':'] := by decide

/-- `int(s, 16)` reads the two digits of an octet back: no sign, no "0x" prefix, no underscore, and the digits'
    values are the two nibbles -/
theorem hexByte_hex2 (b : Nat) : hexByte (hex2 b) = some (u8 b) := by
  obtain ⟨v1, w1, n1⟩ := hexUp_spec (b / 16 % 16) (Nat.mod_lt _ (by decide))
  obtain ⟨v2, w2, n2⟩ := hexUp_spec (b % 16) (Nat.mod_lt _ (by decide))
  simp only [List.mem_cons, List.not_mem_nil, or_false, not_or] at n1 n2
  have hu : unders false (hex2 b) = some (hex2 b) :=
    unders_plain _ _ (by simp [hex2, Ne.symm n1.2.2.1, Ne.symm n2.2.2.1]) (Or.inr (by simp [hex2]))
  have hs : strip (hex2 b) = hex2 b := strip_noWs (NoWs.cons w1 (NoWs.cons w2 NoWs.nil))
  unfold hexByte pyHex
  rw [hs]
  simp only [hex2, pyHexSigned, n1.1, n1.2.1, pyHexCore, n2.2.2.2.1, n2.2.2.2.2.1, hexDigits] at hu ⊢
  simp only [hu, if_false, or_self, and_false, Option.bind_some, parseHex, parseHexAux, v1, v2, Option.map_some]
  rw [inRange_ofNat (by omega), ← u8_mod b]
  show some (u8 _) = _
  congr 2; omega

theorem hex2_clean (b : Nat) {c : Char} (hc : c ∈ hex2 b) : isWs c = false ∧ c ≠ '-' ∧ c ≠ ',' ∧ c ≠ ':' := by
  obtain ⟨d, hd, rfl⟩ : ∃ d < 16, c = hexUp d := by
    rcases List.mem_cons.mp hc with rfl | hc
    · exact ⟨_, Nat.mod_lt _ (by decide), rfl⟩
    · exact ⟨_, Nat.mod_lt _ (by decide), List.mem_singleton.mp hc⟩
  obtain ⟨_, w, n⟩ := hexUp_spec d hd
  simp only [List.mem_cons, List.not_mem_nil, or_false, not_or] at n
  exact ⟨w, n.1, n.2.2.2.2.2⟩

theorem octetHex_eq (b : Nat) : octetHex b = hex2 b := rfl

theorem translateOne_key (p : Peer) {key : List Char} (value : List Char) (h : ':' ∉ key) :
    translateOne p (key ++ ':' :: value) = dispatch p (lower (strip key)) value := by
  simp [translateOne, splitOnFirst_append value h]

theorem trList_single (f : List Char → Tr (List Item)) (x : List Char) : trList f [x] = f x := by
  simp only [trList]; cases f x <;> simp

theorem trList_cons_ok {f : List Char → Tr (List Item)} {x : List Char} {r : List (List Char)} {a b : List Item}
    (h : f x = .ok a) (hr : trList f r = .ok b) : trList f (x :: r) = .ok (a ++ b) := by
  simp [trList, h, hr]

/-- a value as the decoder prints it: no blank and no comma in it -/
def Plain (v : List Char) : Prop := NoWs v ∧ ',' ∉ v

theorem Plain.pair {a b : List Char} (ha : Plain a) (hb : Plain b) : Plain (a ++ ':' :: b) :=
  ⟨ha.1.append (NoWs.cons (by decide) hb.1), by simp [ha.2, hb.2]⟩

theorem plain_decStr (n : Nat) : Plain (decStr n) := ⟨noWs_decStr n, (decStr_no_sep n).2.2.1⟩

theorem plain_decPair (a n : Nat) : Plain (decStr a ++ ':' :: decStr n) := (plain_decStr a).pair (plain_decStr n)

theorem plain_ipPair (ip n : Nat) : Plain (ipv4Str ip ++ ':' :: decStr n) :=
  Plain.pair ⟨noWs_ipv4Str ip, (ipv4Str_no_sep ip).2⟩ (plain_decStr n)

theorem trList_plain (f : List Char → Tr (List Item)) {v : List Char} (h : Plain v) :
    trList f (splitAll ',' (strip v)) = f v := by
  rw [strip_noWs h.1, splitAll_single h.2, trList_single]

theorem adminOne_dec (cIp cAs2 cAs4 : Nat) (p : Peer) (a n : Nat) :
    adminOne cIp cAs2 cAs4 p (decStr a ++ ':' :: decStr n) =
      if a ≤ 65535 then .ok [.str cAs2 (decStr a ++ ':' :: decStr n)]
      else if p.remoteCaps = false then .refused 1
      else if p.fourBytesAs then .ok [.str cAs4 (decStr a ++ ':' :: decStr n)]
      else .refused 2 := by
  unfold adminOne
  rw [strip_noWs (plain_decPair a n).1, firstField_append _ (decStr_no_sep a).1,
    if_neg (decStr_no_sep a).2.1, strip_noWs (noWs_decStr a), pyInt_decStr]
  have e : Int.ofNat a ≤ 65535 ↔ a ≤ 65535 := by simp only [Int.ofNat_eq_natCast]; omega
  simp only [e]

theorem adminOne_as2 (cIp cAs2 cAs4 : Nat) (p : Peer) {a : Nat} (n : Nat) (ha : a < 65536) :
    adminOne cIp cAs2 cAs4 p (decStr a ++ ':' :: decStr n) = .ok [.str cAs2 (decStr a ++ ':' :: decStr n)] := by
  rw [adminOne_dec, if_pos (by omega)]

theorem adminOne_as4 (cIp cAs2 cAs4 : Nat) (p : Peer) {a : Nat} (n : Nat) (ha : 65536 ≤ a)
    (hp : p.remoteCaps = true ∧ p.fourBytesAs = true) :
    adminOne cIp cAs2 cAs4 p (decStr a ++ ':' :: decStr n) = .ok [.str cAs4 (decStr a ++ ':' :: decStr n)] := by
  rw [adminOne_dec, if_neg (by omega), hp.1, hp.2]; rfl

theorem adminOne_as4_refused (cIp cAs2 cAs4 : Nat) (p : Peer) {a : Nat} (n : Nat) (ha : 65536 ≤ a)
    (hp : p.remoteCaps = true ∧ p.fourBytesAs = false) :
    adminOne cIp cAs2 cAs4 p (decStr a ++ ':' :: decStr n) = .refused 2 := by
  rw [adminOne_dec, if_neg (by omega), hp.1, hp.2]; rfl

theorem adminOne_ip4 (cIp cAs2 cAs4 : Nat) (p : Peer) (ip n : Nat) :
    adminOne cIp cAs2 cAs4 p (ipv4Str ip ++ ':' :: decStr n) = .ok [.str cIp (ipv4Str ip ++ ':' :: decStr n)] := by
  unfold adminOne
  rw [strip_noWs (plain_ipPair ip n).1, firstField_append _ (ipv4Str_no_sep ip).1, if_pos (ipv4Str_has_dot ip)]

/-- `name` is a key of the text forms as the decoder prints it: no ':' in it, `lower` and `strip` leave it alone, and
    `dispatch` takes the branch `f` for it.  All three are evaluations on the literal. -/
structure IsKey (p : Peer) (name : String) (f : List Char → Tr (List Item)) : Prop where
  noColon : ':' ∉ name.toList
  plain : lower (strip name.toList) = name.toList
  branch : ∀ x, dispatch p name.toList x = f x

theorem IsKey.translateOne {p : Peer} {name : String} {f : List Char → Tr (List Item)} (k : IsKey p name f)
    (v : List Char) : translateOne p (name.toList ++ ':' :: v) = f v := by
  rw [translateOne_key p v k.noColon, k.plain, k.branch]

theorem tr_routeTarget (p : Peer) {v : List Char} (h : Plain v) :
    translateOne p ("route-target".toList ++ ':' :: v) = adminOne 258 2 514 p v :=
  (IsKey.translateOne ⟨by decide, by decide, fun _ => rfl⟩ v).trans (trList_plain (rtOne p) h)

theorem tr_routeOrigin (p : Peer) {v : List Char} (h : Plain v) :
    translateOne p ("route-origin".toList ++ ':' :: v) = adminOne 259 3 515 p v :=
  (IsKey.translateOne ⟨by decide, by decide, fun _ => rfl⟩ v).trans (trList_plain (roOne p) h)

theorem tr_linkBw {p : Peer} {name : String}
    (k : IsKey p name fun x => .ok ((splitAll ',' (strip x)).map fun y => .str 16388 (strip y)))
    {v : List Char} (h : Plain v) : translateOne p (name.toList ++ ':' :: v) = .ok [.str 16388 v] := by
  rw [k.translateOne, strip_noWs h.1, splitAll_single h.2, List.map_singleton, strip_noWs h.1]

theorem tr_redirectVrf {p : Peer} {name : String} (k : IsKey p name fun x => .ok [.str 32776 (strip x)])
    {v : List Char} (hws : NoWs v) : translateOne p (name.toList ++ ':' :: v) = .ok [.str 32776 v] := by
  rw [k.translateOne, strip_noWs hws]

theorem tr_redirectNh {p : Peer} {name : String}
    (k : IsKey p name fun x =>
      match splitOnFirst ':' (strip x) with
      | none => .raises
      | some (a, b) =>
        match pyInt b with
        | some i => .ok [.nh a i]
        | none => .raises) (ip c : Nat) :
    translateOne p (name.toList ++ ':' :: (ipv4Str ip ++ ':' :: decStr c)) = .ok [.nh (ipv4Str ip) (Int.ofNat c)] := by
  rw [k.translateOne, strip_noWs (plain_ipPair ip c).1, splitOnFirst_append _ (ipv4Str_no_sep ip).1]
  simp only [pyInt_decStr]

/-- the generic BGP_EXT_COM_DICT branch -/
theorem tr_dict {p : Peer} {name : String} {code : Nat}
    (k : IsKey p name fun x => trList (dictOne code) (splitAll ',' (strip x))) {v : List Char} (h : Plain v) :
    translateOne p (name.toList ++ ':' :: v) = dictOne code v := by
  rw [k.translateOne, trList_plain _ h]

theorem dictOne_str {code : Nat} (h : code ≠ 32777) {v : List Char} (hws : NoWs v) :
    dictOne code v = .ok [.str code v] := by
  rw [dictOne, if_neg h, strip_noWs hws]

theorem dictOne_marking (d : Nat) : dictOne 32777 (decStr d) = .ok [.num 32777 (Int.ofNat d)] := by
  rw [dictOne, if_pos rfl, strip_noWs (noWs_decStr d), pyInt_decStr]

/-- the BGP_EXT_COM_DICT_1 branch: esi-label / mac-mobility -/
theorem tr_dict1 {p : Peer} {name : String} {code : Nat}
    (k : IsKey p name fun x =>
      match splitOnFirst ':' (strip x) with
      | none => .raises
      | some (a, b) =>
        match pyInt a, pyInt b with
        | some x, some y => .ok [.num2 code x y]
        | _, _ => .raises) (a b : Nat) :
    translateOne p (name.toList ++ ':' :: (decStr a ++ ':' :: decStr b)) =
      .ok [.num2 code (Int.ofNat a) (Int.ofNat b)] := by
  rw [k.translateOne, strip_noWs (plain_decPair a b).1, splitOnFirst_append _ (decStr_no_sep a).1]
  simp only [pyInt_decStr]

theorem tr_action {p : Peer} {name : String}
    (k : IsKey p name fun x =>
      match actionFields (splitAll ',' (lower (strip x))) none none with
      | some (s, t) => .ok [.action s t]
      | none => .raises) (s t : Nat) :
    translateOne p (name.toList ++ ':' :: ('S' :: ':' :: (decStr s ++ ',' :: 'T' :: ':' :: decStr t))) =
      .ok [.action (some (Int.ofNat s)) (some (Int.ofNat t))] := by
  have hws1 : NoWs ('s' :: ':' :: decStr s) := NoWs.cons (by decide) (NoWs.cons (by decide) (noWs_decStr s))
  have hws2 : NoWs ('t' :: ':' :: decStr t) := NoWs.cons (by decide) (NoWs.cons (by decide) (noWs_decStr t))
  have hws : NoWs ('S' :: ':' :: (decStr s ++ ',' :: 'T' :: ':' :: decStr t)) :=
    NoWs.cons (by decide) (NoWs.cons (by decide) ((noWs_decStr s).append
      (NoWs.cons (by decide) (NoWs.cons (by decide) (NoWs.cons (by decide) (noWs_decStr t))))))
  have hl : lower ('S' :: ':' :: (decStr s ++ ',' :: 'T' :: ':' :: decStr t)) =
      ('s' :: ':' :: decStr s) ++ ',' :: ('t' :: ':' :: decStr t) := by
    simp only [lower_cons, lower_append, lower_digits (decStr_allDigits s), lower_digits (decStr_allDigits t)]
    rfl
  have hc1 : ',' ∉ 's' :: ':' :: decStr s := by simp [(decStr_no_sep s).2.2.1]
  have hc2 : ',' ∉ 't' :: ':' :: decStr t := by simp [(decStr_no_sep t).2.2.1]
  rw [k.translateOne, strip_noWs hws, hl, splitAll_append _ hc1, splitAll_single hc2]
  have f1 : splitOnFirst ':' ('s' :: ':' :: decStr s) = some (['s'], decStr s) :=
    splitOnFirst_append (a := ['s']) (decStr s) (by decide)
  have f2 : splitOnFirst ':' ('t' :: ':' :: decStr t) = some (['t'], decStr t) :=
    splitOnFirst_append (a := ['t']) (decStr t) (by decide)
  simp [actionFields, strip_noWs hws1, strip_noWs hws2, f1, f2, pyInt_decStr]

theorem conAs2_dec (code : Nat) {a n : Nat} (ha : a < 65536) (hn : n < 4294967296) :
    conAs2 code (decStr a ++ ':' :: decStr n) = some (be16 code ++ be16 a ++ be32 n) := by
  unfold conAs2
  rw [split2_append (decStr_no_sep a).1 (decStr_no_sep n).1]
  simp only [pyInt_decStr, inRange_ofNat ha, inRange_ofNat hn]

theorem conAs4_dec (code : Nat) {a n : Nat} (ha : a < 4294967296) (hn : n < 65536) :
    conAs4 code (decStr a ++ ':' :: decStr n) = some (be16 code ++ be32 a ++ be16 n) := by
  unfold conAs4
  rw [split2_append (decStr_no_sep a).1 (decStr_no_sep n).1]
  simp only [pyInt_decStr, inRange_ofNat ha, inRange_ofNat hn]

theorem conIp4_dec (code : Nat) {ip n : Nat} (hip : ip < 4294967296) (hn : n < 65536) :
    conIp4 code (ipv4Str ip ++ ':' :: decStr n) = some (be16 code ++ be32 ip ++ be16 n) := by
  unfold conIp4
  rw [split2_append (ipv4Str_no_sep ip).1 (decStr_no_sep n).1]
  simp only [pyInt_decStr, pyIpv4_ipv4Str hip, inRange_ofNat hn]

theorem conRate_dec (code : Nat) {a r : Nat} (ha : a < 65536) (hr : f32Exact r = true) :
    conRate code (decStr a ++ ':' :: decStr r) = some (be16 code ++ be16 a ++ be32 (ieee32 r)) := by
  unfold conRate
  rw [split2_append (decStr_no_sep a).1 (decStr_no_sep r).1]
  simp only [pyInt_decStr, inRange_ofNat ha, Option.bind_some, packF_exact hr]

theorem conOpaque_dec (code : Nat) {c : Nat} (hc : c < 4294967296) :
    conOpaque code (decStr c) = some (be16 code ++ be16 0 ++ be32 c) := by
  unfold conOpaque
  simp only [pyInt_decStr, inRange_ofNat hc]

theorem conMac_text (code : Nat) (m : Nat) : conMac code (macText m) = some (be16 code ++ beN 6 m) := by
  unfold conMac macText
  have nd : ∀ b, '-' ∉ octetHex b := fun b h => (hex2_clean b h).2.1 rfl
  rw [splitAll_append _ (nd _), splitAll_append _ (nd _), splitAll_append _ (nd _), splitAll_append _ (nd _),
    splitAll_append _ (nd _), splitAll_single (nd _)]
  simp [List.mapM_cons, octetHex_eq, hexByte_hex2, u8_mod, beN, Nat.div_div_eq_div_mul]

theorem macText_clean (m : Nat) : ∀ c ∈ macText m, isWs c = false ∧ c ≠ ',' ∧ c ≠ ':' := by
  have hx : ∀ b, ∀ c ∈ octetHex b, isWs c = false ∧ c ≠ ',' ∧ c ≠ ':' := fun b c h =>
    ⟨(hex2_clean b h).1, (hex2_clean b h).2.2⟩
  simp only [macText, List.forall_mem_append, List.forall_mem_cons]
  exact ⟨hx _, by decide, hx _, by decide, hx _, by decide, hx _, by decide, hx _, by decide, hx _⟩

theorem plain_macText (m : Nat) : Plain (macText m) :=
  ⟨fun c hc => (macText_clean m c hc).1, fun hc => (macText_clean m _ hc).2.1 rfl⟩
theorem noColon_macText (m : Nat) : ':' ∉ macText m := fun hc => (macText_clean m _ hc).2.2 rfl

theorem n16_be {a : Nat} (h : a < 65536) : n16 (u8 (a / 256)) (u8 a) = a := be16_val h

theorem n32_be {n : Nat} (h : n < 4294967296) : n32 (u8 (n / 16777216)) (u8 (n / 65536)) (u8 (n / 256)) (u8 n) = n :=
  be32_val h

theorem n32_low (x y : UInt8) : n32 0 0 x y = n16 x y := by simp [n32, n16]

section
variable {t s a b c d e f : UInt8}

theorem decodeOne_as2 (h : n16 t s = 2 ∨ n16 t s = 3 ∨ n16 t s = 32776) :
    decodeOne t s a b c d e f = .ok (.as2 (n16 t s) (n16 a b) (n32 c d e f)) := if_pos h

theorem decodeOne_ip4 (h : n16 t s = 258 ∨ n16 t s = 259 ∨ n16 t s = 2048) :
    decodeOne t s a b c d e f = .ok (.ip4 (n16 t s) (n32 a b c d) (n16 e f)) := by
  rcases h with h | h | h <;> simp [decodeOne, h]

theorem decodeOne_as4 (h : n16 t s = 514 ∨ n16 t s = 515) :
    decodeOne t s a b c d e f = .ok (.as4 (n16 t s) (n32 a b c d) (n16 e f)) := by
  rcases h with h | h <;> simp [decodeOne, h]

theorem decodeOne_rate (h : n16 t s = 32774 ∨ n16 t s = 16388) :
    decodeOne t s a b c d e f = decodeRate (n16 t s) a b c d e f := by
  rcases h with h | h <;> simp [decodeOne, h]

theorem decodeOne_action (h : n16 t s = 32775) :
    decodeOne t s a b c d e f = .ok (.action (f.toNat / 2 % 2) (f.toNat % 2)) := by
  simp [decodeOne, h]

theorem decodeOne_mark (h : n16 t s = 32777) : decodeOne t s a b c d e f = .ok (.mark f.toNat) := by
  simp [decodeOne, h]

theorem decodeOne_opaque (h : n16 t s = 780 ∨ n16 t s = 779) :
    decodeOne t s a b c d e f = .ok (.opaque (n16 t s) (n32 c d e f)) := by
  rcases h with h | h <;> simp [decodeOne, h]

theorem decodeOne_mac (h : n16 t s = 1538 ∨ n16 t s = 1539) :
    decodeOne t s a b c d e f = .ok (.mac (n16 t s) a.toNat b.toNat c.toNat d.toNat e.toNat f.toNat) := by
  rcases h with h | h <;> simp [decodeOne, h]

theorem decodeOne_macMob (h : n16 t s = 1536) :
    decodeOne t s a b c d e f = .ok (.macMob a.toNat (n32 c d e f)) := by
  simp [decodeOne, h]

theorem decodeOne_esiLabel (h : n16 t s = 1537) :
    decodeOne t s a b c d e f = .ok (.esiLabel a.toNat ((d.toNat * 65536 + e.toNat * 256 + f.toNat) / 16)) := by
  simp [decodeOne, h]

end

theorem decodeRate_exact (code : Nat) {a r : Nat} (ha : a < 65536) (hr : f32Exact r = true) :
    decodeRate code (u8 (a / 256)) (u8 a) (u8 (ieee32 r / 16777216)) (u8 (ieee32 r / 65536)) (u8 (ieee32 r / 256))
      (u8 (ieee32 r)) = .ok (.rate code a false r) := by
  have hu := unpackF_exact hr
  unfold decodeRate
  rw [n32_be hu.2, hu.1, n16_be ha]; rfl

def consVal (v : Val) (r : R (List Val)) : R (List Val) :=
  match r with
  | .ok vs => .ok (v :: vs)
  | .error e => .error e

theorem decodeAll_of_one {t s a b c d e f : UInt8} {v : Val} (rest : Bytes) (h : decodeOne t s a b c d e f = .ok v) :
    decodeAll (t :: s :: a :: b :: c :: d :: e :: f :: rest) = consVal v (decodeAll rest) := by
  rw [decodeAll, h]; cases decodeAll rest <;> rfl

theorem rfcBytes_length (v : EC) : (rfcBytes v).length = 8 := by
  cases v <;> rfl

theorem flatMap_rfcBytes_length (vs : List EC) : (vs.flatMap rfcBytes).length = 8 * vs.length :=
  length_flatMap_const 8 rfcBytes_length vs

theorem mapM_parseComm (vs : List Nat) (h : ∀ v ∈ vs, v < 4294967296) : (vs.map commStr).mapM parseComm = some vs := by
  induction vs with
  | nil => rfl
  | cons v r ih =>
    rw [List.forall_mem_cons] at h
    simp [List.mapM_cons, parseComm_commStr h.1, ih h.2]

theorem mapM_parseLarge (ts : List (Nat × Nat × Nat)) : (ts.map largeStr).mapM parseLarge = some ts := by
  induction ts with
  | nil => rfl
  | cons t r ih => simp [List.mapM_cons, parseLarge_largeStr, ih]

end Yabgp.ExtComm
