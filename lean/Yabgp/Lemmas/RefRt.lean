/-
  The model decoders invert the reference encoder of Spec/RfcEncode.lean: AS_PATH (in front of anything), the other
  attribute values, one attribute, the attribute loop.  C09 states this; C06 follows from it because the agent's own
  encoder is one of the encodings the reference encoder produces (Lemmas/UpdateRt.lean).
-/
import Yabgp.Spec.RfcEncode
import Yabgp.Lemmas.AttrRt

namespace Yabgp
open Spec

def segsWire (four : Bool) (segs : List (Nat × List Nat)) : Bytes :=
  segs.flatMap fun s => [u8 s.1, u8 s.2.length] ++ s.2.flatMap (asnBytes four)

theorem asnBytes_eq_encAsns (four : Bool) (xs : List Nat) : xs.flatMap (asnBytes four) = encAsns four xs := by
  unfold encAsns asnBytes; rfl

theorem asnBytes_length (four : Bool) (xs : List Nat) :
    (xs.flatMap (asnBytes four)).length = xs.length * asWidth four := by
  rw [asnBytes_eq_encAsns, encAsns_length]

theorem parseAsPath_append (four : Bool) (segs : List (Nat × List Nat)) (b : Bytes)
    (hs : ∀ s ∈ segs, SegOk four s) :
    parseAsPath four (segsWire four segs ++ b) = (parseAsPath four b).map (segs ++ ·) := by
  induction segs with
  | nil =>
    simp only [segsWire, List.flatMap_nil, List.nil_append]
    cases parseAsPath four b <;> rfl
  | cons s rs ih =>
    obtain ⟨h1, h2, h3, h4⟩ := hs s (by simp)
    simp only [segsWire, List.flatMap_cons, List.append_assoc, List.cons_append, List.nil_append] at ih ⊢
    rw [parseAsPath_cons]
    have hl : (u8 s.2.length).toNat = s.2.length := u8_toNat h3
    have ht1 : (u8 s.1).toNat = s.1 := u8_toNat (by omega)
    -- behind the two header octets the decoder drops `n * asWidth` octets, exactly the AS numbers (`hlen`), so what it
    -- goes on with is the wire form of the remaining segments
    have hlen := asnBytes_length four s.2
    rw [ht1, hl, if_neg (by omega), if_neg (by simp [hlen])]
    rw [List.drop_left' hlen, ih (fun q hq => hs q (by simp [hq]))]
    rw [asnBytes_eq_encAsns, decAsns_enc four s.2 _ h4]
    cases parseAsPath four b <;> rfl

theorem parseAsPath_ref (four : Bool) (segs : List (Nat × List Nat)) (h : ∀ s ∈ segs, SegOk four s) :
    parseAsPath four (segs.flatMap fun s => [u8 s.1, u8 s.2.length] ++ s.2.flatMap (asnBytes four)) = .ok segs := by
  have := parseAsPath_append four segs [] h
  rwa [List.append_nil, parseAsPath, Except.map, List.append_nil] at this

theorem encSegments_ref (four : Bool) (segs : List (Nat × List Nat)) (h : ∀ s ∈ segs, SegOk four s) :
    encSegments four segs = some (segs.flatMap fun s => [u8 s.1, u8 s.2.length] ++ s.2.flatMap (asnBytes four)) := by
  induction segs with
  | nil => rfl
  | cons s r ih =>
    have hs := h s (by simp)
    have hr := ih (fun x hx => h x (by simp [hx]))
    simp only [encSegments, encSegment_ok hs, hr, Option.bind_eq_bind, Option.bind_some, Option.pure_def,
      List.flatMap_cons]
    simp only [be8, encAsns, List.cons_append, List.nil_append]
    cases four <;> simp <;> (congr 1)

/-- the attribute type codes some decoder is registered for (anything else is kept as opaque octets) -/
def knownCodes : List Nat := [1, 2, 3, 4, 5, 6, 7, 8, 9, 10, 17, 18, 32, 14, 15, 16, 22, 29, 40]

/-- in-range values for the reference encoder: the standard attributes of C06 plus AS4_PATH / AS4_AGGREGATOR,
    plus attributes of a type the agent does not know, carrying arbitrary octets -/
def AttrOkR (asn4 : Bool) (code : Nat) (v : AttrVal) : Prop :=
  AttrOk asn4 code v ∨
  (code = 17 ∧ ∃ segs, v = .asPath segs ∧ ∀ s ∈ segs, SegOk true s) ∨
  (code = 18 ∧ ∃ a ip, v = .aggregator a ip ∧ a < 4294967296 ∧ ip < 4294967296) ∨
  (code ∉ knownCodes ∧ ∃ b, v = .raw b)

theorem pav_unknown (a : Bool) (code : Nat) (v : Bytes) (h : code ∉ knownCodes) :
    parseAttrValue a code v = .ok (.raw v) := by
  simp only [knownCodes, List.mem_cons, List.not_mem_nil, or_false, not_or] at h
  simp [parseAttrValue_code, otherModelCodes, h]

theorem parseAggregator_ref (four : Bool) {a ip : Nat} (ha : asnOk four a = true) (hip : ip < 4294967296) :
    parseAggregator four (asnBytes four a ++ be32 ip) = .ok (.aggregator a ip) := by
  cases four
  · simp only [asnOk, Bool.false_eq_true, ↓reduceIte, decide_eq_true_eq] at ha
    have h1 : (be16 a ++ be32 ip).take 2 = be16 a := by simp [be16]
    have h2 : (be16 a ++ be32 ip).drop 2 = be32 ip := by simp [be16]
    simp only [asnBytes, parseAggregator, Bool.false_eq_true, ↓reduceIte, h1, h2, unpackH_be16 ha, unpackI_be32 hip]
  · simp only [asnOk, ↓reduceIte, decide_eq_true_eq] at ha
    have h1 : (be32 a ++ be32 ip).take 4 = be32 a := by simp [be32]
    have h2 : (be32 a ++ be32 ip).drop 4 = be32 ip := by simp [be32]
    simp only [asnBytes, parseAggregator, ↓reduceIte, h1, h2, unpackI_be32 ha, unpackI_be32 hip]

theorem refValue_parse (asn4 : Bool) (code : Nat) (v : AttrVal) (h : AttrOkR asn4 code v) :
    parseAttrValue asn4 code (refValue asn4 code v) = .ok v := by
  rcases h with h | ⟨rfl, segs, rfl, hs⟩ | ⟨rfl, a, ip, rfl, ha, hip⟩ | ⟨hc, b, rfl⟩
  · cases v with
    | origin n =>
      obtain ⟨rfl, hn⟩ := h
      simp [refValue, parseAttrValue_code, parseOrigin, u8_toNat (show n < 256 by omega), hn]
    | asPath segs =>
      obtain ⟨rfl, hs⟩ := h
      simp only [refValue, parseAttrValue_code, Nat.reduceEqDiff, ↓reduceIte, Nat.reduceBEq, Bool.or_false,
        parseAsPath_ref asn4 segs hs]
      rfl
    | nextHop ip =>
      obtain ⟨rfl, hn⟩ := h
      have := rd32_be32 hn []
      simp only [List.append_nil] at this
      simp [refValue, parseAttrValue_code, parseNextHop, this]
    | med n =>
      obtain ⟨rfl, hn⟩ := h
      simp [refValue, parseAttrValue_code, parseU32, unpackI_be32 hn, Except.map]
    | localPref n =>
      obtain ⟨rfl, hn⟩ := h
      simp [refValue, parseAttrValue_code, parseU32, unpackI_be32 hn, Except.map]
    | atomicAgg =>
      have hc : code = 6 := h
      subst hc
      simp [refValue, parseAttrValue_code, parseAtomicAgg]
    | aggregator a ip =>
      obtain ⟨rfl, ha, hip⟩ := h
      simp only [refValue, parseAttrValue_code, Nat.reduceEqDiff, ↓reduceIte, Nat.reduceBEq, Bool.or_false,
        parseAggregator_ref asn4 ha hip]
    | community cs =>
      obtain ⟨rfl, hcs⟩ := h
      have h4 := flatMap_be32_length cs
      simp only [refValue, parseAttrValue_code, Nat.reduceEqDiff, parseCommunity, h4, Nat.mul_mod_right, ↓reduceIte, words32_flatMap_be32 cs hcs]
    | originatorId ip =>
      obtain ⟨rfl, hn⟩ := h
      simp [refValue, parseAttrValue_code, parseOriginatorId, unpackI_be32 hn]
    | clusterList ips =>
      obtain ⟨rfl, hcs⟩ := h
      have h4 := flatMap_be32_length ips
      simp only [refValue, parseAttrValue_code, Nat.reduceEqDiff, parseClusterList, h4, Nat.mul_mod_right, ↓reduceIte, words32_flatMap_be32 ips hcs]
    | largeCommunity xs =>
      obtain ⟨rfl, hcs⟩ := h
      have h4 := triples_flat_length xs
      simp only [refValue, parseAttrValue_code, Nat.reduceEqDiff, parseLargeCommunity, h4, Nat.mul_mod_right, ↓reduceIte, triples_words xs hcs]
    | raw b => exact absurd h id
    | unmodelled c => exact absurd h id
  · simp only [refValue, parseAttrValue_code, Nat.reduceEqDiff, ↓reduceIte, BEq.rfl, Bool.or_true,
      parseAsPath_ref true segs hs]
    rfl
  · simp only [refValue, parseAttrValue_code, Nat.reduceEqDiff, ↓reduceIte, BEq.rfl, Bool.or_true,
      parseAggregator_ref true (by simpa [asnOk] using ha) hip]
  · simp only [refValue, pav_unknown asn4 code b hc]

theorem baseFlags_mod_le (code : Nat) : baseFlags code % 64 = 0 ∧ baseFlags code ≤ 192 := by
  unfold baseFlags; split
  · decide
  · split <;> decide

theorem splitAttr_ref (asn4 : Bool) (a : RefAttr) (rest : Bytes) (hc : a.code < 256)
    (hl : (refValue asn4 a.code a.val).length < 65536) :
    ∃ f, splitAttr (refAttr asn4 a ++ rest) = some (f, a.code, refValue asn4 a.code a.val, rest) := by
  unfold refAttr
  generalize refValue asn4 a.code a.val = v at hl ⊢
  -- category flags and Partial leave bit 4, the Extended Length bit, to `ext`
  have hF : (baseFlags a.code + if a.partialBit then 0x20 else 0) % 32 = 0 ∧
      baseFlags a.code + (if a.partialBit then 0x20 else 0) ≤ 224 := by
    have := baseFlags_mod_le a.code; split <;> omega
  generalize baseFlags a.code + (if a.partialBit then 0x20 else 0) = F at hF
  refine ⟨_, splitAttr_hdr _ a.code (a.ext || decide (255 < v.length)) v rest ?_ hc ?_ ?_⟩
  all_goals cases hx : (a.ext || decide (255 < v.length))
  all_goals simp only [Bool.or_eq_false_iff, decide_eq_false_iff_not, Bool.false_eq_true, ↓reduceIte] at hx ⊢
  all_goals omega

theorem attrLoop_ref_then (asn4 : Bool) (as : List RefAttr) (rest : Bytes) :
    ∀ (acc : List (Nat × AttrVal)),
      (∀ a ∈ as, a.code < 256 ∧ AttrOkR asn4 a.code a.val ∧ (refValue asn4 a.code a.val).length < 65536) →
      (keys acc ++ as.map (·.code)).Nodup →
      parseAttrLoop asn4 acc (as.flatMap (refAttr asn4) ++ rest) =
        parseAttrLoop asn4 (acc ++ as.map (fun a => (a.code, a.val))) rest := by
  induction as with
  | nil => intro acc _ _; simp
  | cons a r ih =>
    intro acc hok hnd
    obtain ⟨hc, hv, hl⟩ := hok a (by simp)
    obtain ⟨f, hsplit⟩ := splitAttr_ref asn4 a (r.flatMap (refAttr asn4) ++ rest) hc hl
    rw [List.flatMap_cons, List.append_assoc, parseAttrLoop_unfold asn4 acc _ (splitAttr_nonempty hsplit)]
    simp only [hsplit, refValue_parse asn4 a.code a.val hv]
    have hfresh : a.code ∉ keys acc := by
      intro hin
      have := List.nodup_append.mp hnd
      exact this.2.2 a.code hin a.code (by simp) rfl
    rw [dictSet_fresh acc a.code a.val hfresh]
    rw [ih (acc ++ [(a.code, a.val)]) (fun x hx => hok x (by simp [hx])) ?_]
    · simp
    · simpa [keys, List.append_assoc] using hnd

theorem attrLoop_ref (asn4 : Bool) (as : List RefAttr) (acc : List (Nat × AttrVal))
    (hok : ∀ a ∈ as, a.code < 256 ∧ AttrOkR asn4 a.code a.val ∧ (refValue asn4 a.code a.val).length < 65536)
    (hnd : (keys acc ++ as.map (·.code)).Nodup) :
    parseAttrLoop asn4 acc (as.flatMap (refAttr asn4)) = (acc ++ as.map (fun a => (a.code, a.val)), none) := by
  have := attrLoop_ref_then asn4 as [] acc hok hnd
  simpa [parseAttrLoop_nil] using this

end Yabgp
