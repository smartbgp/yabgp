/-
  `NE s s'`: the outputs of `s'` extend those of `s` by items none of which is the marker `Out.escaped` (a Python
  exception leaving a Twisted callback).  It is one half of `Clean` (Lemmas/SentBal.lean), which is what is carried
  across the actions; C10 over whole histories (Props/C10b.lean) reads it off.
-/
import Yabgp.Lemmas.Ext

namespace Yabgp
namespace Sess

def isEsc : Out → Bool
  | .escaped => true
  | _ => false

def NE (s s' : Sess) : Prop := ∃ l, s'.outs = s.outs ++ l ∧ ∀ o ∈ l, isEsc o = false

theorem NE.iff_outsExt {s s' : Sess} : NE s s' ↔ OutsExt (isEsc · = false) s s' := .rfl

theorem NE.refl (s : Sess) : NE s s := OutsExt.refl _ s

theorem NE.trans {a b c : Sess} (h1 : NE a b) (h2 : NE b c) : NE a c := OutsExt.trans (P := (isEsc · = false)) h1 h2

theorem ne_setConn (s : Sess) (j : Nat) (c : Conn) : NE s (s.setConn j c) := OutsExt.of_same rfl

theorem be16_length' (n : Nat) : (be16 n).length = 2 := be16_length n

end Sess
end Yabgp
