/-
  Lemmas for C07 part b / C15: the MP_REACH_NLRI / MP_UNREACH_NLRI branches (Model/Mp/EvfWrap.lean) of the EVPN
  NLRI (Lemmas/EvpnRt.lean) and of the IPv4 flow specification NLRI (Lemmas/FlowspecRt.lean).  The property theorems
  themselves are in Props/C07b.lean.
-/
import Yabgp.Model.Mp.EvfWrap
import Yabgp.Lemmas.EvpnRt
import Yabgp.Lemmas.FlowspecRt

namespace Yabgp
open Yabgp.Evpn Yabgp.Flowspec Yabgp.Evf

theorem attrHeader_bytes {code : Nat} {value w : Bytes} (h : attrHeader code value = .bytes w) :
    w = [0x90, u8 code] ++ be16 value.length ++ value ∧ value.length < 65536 := by
  unfold attrHeader at h
  split at h
  · rename_i hl; simp only [CR.bytes.injEq] at h; exact ⟨h.symm, hl⟩
  · cases h

theorem attrHeader_ok (code : Nat) {value : Bytes} (h : value.length < 65536) :
    attrHeader code value = .bytes ([0x90, u8 code] ++ be16 value.length ++ value) := if_pos h

/-- the fixed part of an MP_REACH_NLRI value followed by next hop, reserved octet and NLRI -/
theorem reach_fields (afi safi : Nat) (nb nl : Bytes) (hafi : afi < 65536) (hsafi : safi < 256) (hnb : nb.length < 256) :
    unpackHBB (slice (be16 afi ++ [u8 safi, u8 nb.length] ++ nb ++ [0] ++ nl) 0 4) = some (afi, safi, nb.length) ∧
    slice (be16 afi ++ [u8 safi, u8 nb.length] ++ nb ++ [0] ++ nl) 4 (4 + nb.length) = nb ∧
    (be16 afi ++ [u8 safi, u8 nb.length] ++ nb ++ [0] ++ nl).drop (5 + nb.length) = nl := by
  have h4 : (be16 afi ++ [u8 safi, u8 nb.length]).length = 4 := rfl
  simp only [List.append_assoc]
  refine ⟨?_, ?_, ?_⟩
  · rw [← List.append_assoc, slice_take h4]
    simp only [be16, List.cons_append, List.nil_append, unpackHBB, be16_val hafi, u8_toNat hsafi, u8_toNat hnb]
  · rw [← List.append_assoc, Nat.add_comm, slice_skip h4 0, slice_take rfl]
  · rw [← List.append_assoc, show 5 + nb.length = 1 + nb.length + 4 by omega, drop_skip h4, drop_skip rfl 1]; rfl

theorem unreach_fields (afi safi : Nat) (nl : Bytes) (hafi : afi < 65536) (hsafi : safi < 256) :
    unpackHB (slice (be16 afi ++ [u8 safi] ++ nl) 0 3) = some (afi, safi) ∧
    (be16 afi ++ [u8 safi] ++ nl).drop 3 = nl := by
  refine ⟨?_, List.drop_left' rfl⟩
  rw [slice_take (a := be16 afi ++ [u8 safi]) (n := 3) rfl]
  simp only [be16, List.cons_append, List.nil_append, unpackHB, be16_val hafi, u8_toNat hsafi]

end Yabgp
