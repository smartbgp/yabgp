/-
  Lemmas about the parametric TLV loop (Model/Tlv.lean) and about Python-dict reads (`pyGet`).
-/
import Yabgp.Model.Tlv

namespace Yabgp.Tlv
open Yabgp

variable {α ε : Type}

@[simp] theorem tlvRun_nil (sh : Shape) (body : Bytes → Bytes → Except ε (Option α)) :
    tlvRun sh body [] = { vals := [], stop := .done, steps := 0 } := by
  rw [tlvRun, dif_pos rfl]

theorem tlvRun_short (sh : Shape) (body : Bytes → Bytes → Except ε (Option α)) (b : Bytes)
    (hb : b ≠ []) (hs : b.length < sh.hdr) :
    tlvRun sh body b = { vals := [], stop := .short b, steps := 1 } := by
  rw [tlvRun, dif_neg hb, if_pos hs]

theorem tlvRun_step (sh : Shape) (body : Bytes → Bytes → Except ε (Option α)) (b : Bytes)
    (hs : sh.hdr ≤ b.length) :
    tlvRun sh body b =
      match body (hdrOf sh b) (valOf sh b) with
      | .error e => { vals := [], stop := .fail (hdrOf sh b) (valOf sh b) e, steps := 1 }
      | .ok x => (tlvRun sh body (restOf sh b)).push x := by
  rw [tlvRun, dif_neg (List.ne_nil_of_length_pos (Nat.lt_of_lt_of_le sh.hpos hs)), if_neg (Nat.not_lt.mpr hs)]
  rfl

theorem restOf_length_le (sh : Shape) (b : Bytes) : (restOf sh b).length ≤ b.length - sh.hdr := by
  rw [restOf, List.length_drop]; omega

theorem valOf_restOf_length (sh : Shape) (b : Bytes) :
    (valOf sh b).length + (restOf sh b).length = b.length - sh.hdr := by
  unfold valOf restOf slice
  rw [List.length_drop, List.length_take, List.length_drop, Nat.min_def]
  split <;> omega

theorem hdrOf_item (sh : Shape) (h v r : Bytes) (hh : h.length = sh.hdr) :
    hdrOf sh (h ++ v ++ r) = h := by
  simp [hdrOf, List.append_assoc, ← hh]

theorem valOf_item (sh : Shape) (h v r : Bytes) (hh : h.length = sh.hdr) (hl : sh.len h = v.length) :
    valOf sh (h ++ v ++ r) = v := by
  unfold valOf
  rw [hdrOf_item sh h v r hh, hl, ← hh]
  unfold slice
  rw [List.take_left' (l₁ := h ++ v) (by simp)]
  exact List.drop_left' rfl

theorem restOf_item (sh : Shape) (h v r : Bytes) (hh : h.length = sh.hdr) (hl : sh.len h = v.length) :
    restOf sh (h ++ v ++ r) = r := by
  unfold restOf
  rw [hdrOf_item sh h v r hh, hl, ← hh]
  exact List.drop_left' (by simp)

theorem tlvRun_item (sh : Shape) (body : Bytes → Bytes → Except ε (Option α)) (h v r : Bytes)
    (hh : h.length = sh.hdr) (hl : sh.len h = v.length) :
    tlvRun sh body (h ++ v ++ r) =
      match body h v with
      | .error e => { vals := [], stop := .fail h v e, steps := 1 }
      | .ok x => (tlvRun sh body r).push x := by
  rw [tlvRun_step sh body _ (by simp; omega)]
  rw [hdrOf_item sh h v r hh, valOf_item sh h v r hh hl, restOf_item sh h v r hh hl]

def enc (items : List (Bytes × Bytes)) : Bytes := items.flatMap fun hv => hv.1 ++ hv.2

def Whole (sh : Shape) (items : List (Bytes × Bytes)) : Prop :=
  ∀ hv ∈ items, hv.1.length = sh.hdr ∧ sh.len hv.1 = hv.2.length

@[simp] theorem enc_nil : enc [] = [] := rfl
@[simp] theorem enc_cons (hv : Bytes × Bytes) (r : List (Bytes × Bytes)) : enc (hv :: r) = hv.1 ++ hv.2 ++ enc r := rfl
theorem enc_append (xs ys : List (Bytes × Bytes)) : enc (xs ++ ys) = enc xs ++ enc ys := by
  simp [enc, List.flatMap_append]

theorem Whole.append {sh : Shape} {xs ys : List (Bytes × Bytes)} (hx : Whole sh xs) (hy : Whole sh ys) :
    Whole sh (xs ++ ys) :=
  List.forall_mem_append.mpr ⟨hx, hy⟩

def walkThen (body : Bytes → Bytes → Except ε (Option α)) : List (Bytes × Bytes) → Run α ε → Run α ε
  | [], k => k
  | (h, v) :: r, k =>
    match body h v with
    | .error e => { vals := [], stop := .fail h v e, steps := 1 }
    | .ok x => (walkThen body r k).push x

theorem tlvRun_enc_append (sh : Shape) (body : Bytes → Bytes → Except ε (Option α))
    (items : List (Bytes × Bytes)) (hw : Whole sh items) (b : Bytes) :
    tlvRun sh body (enc items ++ b) = walkThen body items (tlvRun sh body b) := by
  induction items with
  | nil => simp [walkThen]
  | cons hv r ih =>
    obtain ⟨h, v⟩ := hv
    obtain ⟨hh, hl⟩ := hw (h, v) (by simp)
    rw [enc_cons, List.append_assoc, tlvRun_item sh body h v (enc r ++ b) hh hl]
    simp only [walkThen]
    rw [ih fun x hx => hw x (List.mem_cons_of_mem _ hx)]

theorem walkThen_ok (body : Bytes → Bytes → Except ε (Option α)) (items : List (Bytes × Bytes))
    (hok : ∀ hv ∈ items, ∃ x, body hv.1 hv.2 = .ok x) :
    ∃ vs, ∀ k : Run α ε,
      walkThen body items k = { vals := vs ++ k.vals, stop := k.stop, steps := items.length + k.steps } := by
  induction items with
  | nil => exact ⟨[], fun k => by simp [walkThen]⟩
  | cons hv r ih =>
    obtain ⟨h, v⟩ := hv
    obtain ⟨x, hx⟩ := hok (h, v) (by simp)
    obtain ⟨vs, hvs⟩ := ih fun y hy => hok y (by simp [hy])
    refine ⟨x.toList ++ vs, fun k => ?_⟩
    simp only [walkThen, hx, hvs, Run.push, List.append_assoc, List.length_cons]
    congr 1
    omega

/-! ### split / walk: the loop is "split by the shape, then map the body decoder"

  Facts about every run are proved by induction along the recursion of `tlvRun` itself; its four cases are the four
  ways one pass through the loop can go: empty input, short header, body raises, body returns. -/

theorem tlvRun_eq_walk (sh : Shape) (body : Bytes → Bytes → Except ε (Option α)) (b : Bytes) :
    tlvRun sh body b = walk body (tlvSplit sh b).vals (tlvSplit sh b).stop.cast := by
  unfold tlvSplit
  fun_induction tlvRun sh body b with
  | case1 => simp [walk, Stop.cast, stopSteps]
  | case2 b hb hs => rw [tlvRun_short sh _ b hb hs]; rfl
  | case3 b hb hs e he => rw [tlvRun_step sh _ b (Nat.not_lt.mp hs)]; simp [Run.push, walk, he]
  | case4 b hb hs x hx ih => rw [tlvRun_step sh _ b (Nat.not_lt.mp hs)]; simp [Run.push, walk, hx, ← ih]

theorem tlvRun_fail {sh : Shape} {body : Bytes → Bytes → Except ε (Option α)} {b h v : Bytes} {e : ε}
    (hf : (tlvRun sh body b).stop = .fail h v e) : body h v = .error e := by
  fun_induction tlvRun sh body b with
  | case1 => cases hf
  | case2 => cases hf
  | case3 b _ _ e' he => cases hf; exact he
  | case4 b _ _ x _ ih => exact ih hf

theorem tlvSplit_stop_ne_fail (sh : Shape) (b : Bytes) (h v : Bytes) (e : Unit) :
    (tlvSplit sh b).stop ≠ .fail h v e := fun hf => nomatch tlvRun_fail hf

theorem tlv22_typ (t l : Nat) (ht : t < 65536) : tlv22.typ (hdr22 t l) = t := beVal_be16 ht
theorem tlv22_len (t l : Nat) (hl : l < 65536) : tlv22.len (hdr22 t l) = l := beVal_be16 hl
theorem hdr22_length (t l : Nat) : (hdr22 t l).length = tlv22.hdr := rfl

theorem tlv12_typ (t l : Nat) (ht : t < 256) : tlv12.typ (hdr12 t l) = t := beVal_be8 ht
theorem tlv12_len (t l : Nat) (hl : l < 65536) : tlv12.len (hdr12 t l) = l := beVal_be16 hl
theorem hdr12_length (t l : Nat) : (hdr12 t l).length = tlv12.hdr := rfl

theorem srRange_len (r ty l : Nat) (hl : l < 65536) : srRange.len (hdrSr r ty l) = l := beVal_be16 hl
theorem hdrSr_length (r ty l : Nat) : (hdrSr r ty l).length = srRange.hdr := rfl

theorem pyGet_append {κ β : Type} [DecidableEq κ] (k : κ) (xs ys : List (κ × β)) :
    pyGet k (xs ++ ys) = match pyGet k ys with
      | some w => some w
      | none => pyGet k xs := by
  induction xs with
  | nil => simp [pyGet]; cases pyGet k ys <;> rfl
  | cons e r ih =>
    obtain ⟨k', v⟩ := e
    simp only [List.cons_append, pyGet, ih]
    cases pyGet k ys <;> rfl

theorem pyGet_none_of_not_mem {κ β : Type} [DecidableEq κ] (k : κ) (xs : List (κ × β))
    (h : k ∉ xs.map (·.1)) : pyGet k xs = none := by
  induction xs with
  | nil => rfl
  | cons e r ih =>
    obtain ⟨k', v⟩ := e
    simp only [List.map_cons, List.mem_cons, not_or] at h
    simp only [pyGet, ih h.2]
    rw [if_neg (fun hh => h.1 hh.symm)]

theorem pyGet_of_mem_nodup {κ β : Type} [DecidableEq κ] (k : κ) (v : β) (xs : List (κ × β))
    (hn : (xs.map (·.1)).Nodup) (hm : (k, v) ∈ xs) : pyGet k xs = some v := by
  induction xs with
  | nil => simp at hm
  | cons e r ih =>
    obtain ⟨k', v'⟩ := e
    simp only [List.map_cons, List.nodup_cons] at hn
    rcases List.mem_cons.mp hm with h | h
    · simp only [Prod.mk.injEq] at h
      obtain ⟨rfl, rfl⟩ := h
      simp only [pyGet, pyGet_none_of_not_mem k r hn.1, ↓reduceIte]
    · simp only [pyGet, ih hn.2 h]

theorem pyGet_perm {κ β : Type} [DecidableEq κ] {xs ys : List (κ × β)} (hp : xs.Perm ys)
    (hn : (xs.map (·.1)).Nodup) (k : κ) : pyGet k xs = pyGet k ys := by
  have hny : (ys.map (·.1)).Nodup := (hp.map _).nodup_iff.mp hn
  by_cases h : k ∈ xs.map (·.1)
  · obtain ⟨⟨k', v⟩, hm, rfl⟩ := List.mem_map.mp h
    rw [pyGet_of_mem_nodup k' v _ hn hm, pyGet_of_mem_nodup k' v _ hny (hp.mem_iff.mp hm)]
  · rw [pyGet_none_of_not_mem k _ h, pyGet_none_of_not_mem k _ fun hm => h ((hp.map _).mem_iff.mpr hm)]

theorem pyGet_insert {κ β : Type} [DecidableEq κ] (xs ys : List (κ × β)) (e : κ × β) (he : e.1 ∉ ys.map (·.1)) :
    pyGet e.1 (xs ++ e :: ys) = some e.2 ∧ ∀ k, k ≠ e.1 → pyGet k (xs ++ e :: ys) = pyGet k (xs ++ ys) := by
  refine ⟨?_, fun k hk => ?_⟩
  · rw [pyGet_append, pyGet, pyGet_none_of_not_mem _ ys he, if_pos rfl]
  · rw [pyGet_append, pyGet_append k xs ys, pyGet, if_neg (Ne.symm hk)]
    cases pyGet k ys <;> rfl

end Yabgp.Tlv
