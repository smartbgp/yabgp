/-
  The stopped situation of C13 (`Stopped`) and its closure under the actions that can still happen in it: closing,
  giving up an attempt, a repeated stop, a connection reported lost.  The statements of C13 are in Props/C13.lean.
-/
import Yabgp.Lemmas.Heal

namespace Yabgp
open Sess

/-- the stopped situation: automatic start forbidden, Idle, no timer running, and no connection attempt pending
    nor connection open (those we closed may still be waiting for their connectionLost) -/
structure Stopped (s : Sess) : Prop where
  allow : s.allowAuto = false
  st : s.st = .idle
  tm : s.tm = {}
  quiet : ∀ j, j < s.conns.length → (s.conn j).phase = .closing ∨ (s.conn j).phase = .closed

def isNoise : Out → Bool
  | .write .. => true
  | .connect .. => true
  | _ => false

theorem Stopped.withOuts {s : Sess} (h : Stopped s) (v : List Out) : Stopped (s.withOuts v) :=
  ⟨h.allow, h.st, h.tm, h.quiet⟩

theorem phase_setPhase (s : Sess) (c : Nat) (p : Phase) (j : Nat) :
    ((s.setPhase c p).conn j).phase = if c = j ∧ c < s.conns.length then p else (s.conn j).phase := by
  simp only [setPhase, conn_setConn]; split <;> rfl

theorem phase_setDisconnected (s : Sess) (c j : Nat) : ((s.setDisconnected c).conn j).phase = (s.conn j).phase := by
  simp only [setDisconnected, conn_setConn]; split
  · rename_i h; rw [h.1]
  · rfl

theorem phase_closeOn (s : Sess) (i j : Nat) :
    ((s.closeOn i).conn j).phase = (s.conn j).phase ∨ ((s.closeOn i).conn j).phase = .closing := by
  unfold closeOn
  by_cases h1 : (s.conn i).phase = .connected
  · rw [if_pos h1, show (((s.setPhase i .closing).setDisconnected i).emit (.lose i)).conn j =
      ((s.setPhase i .closing).setDisconnected i).conn j from rfl, phase_setDisconnected, phase_setPhase]
    by_cases h : i = j ∧ i < s.conns.length
    · rw [if_pos h]; exact .inr rfl
    · rw [if_neg h]; exact .inl rfl
  · rw [if_neg h1]
    by_cases h2 : (s.conn i).phase = .closing
    · rw [if_pos h2, phase_setDisconnected]; exact .inl rfl
    · rw [if_neg h2]; exact .inl rfl

theorem outs_closeOn (s : Sess) (i : Nat) : ∀ o ∈ (s.closeOn i).outs, o ∈ s.outs ∨ o = .lose i := by
  intro o ho
  unfold closeOn at ho
  by_cases h1 : (s.conn i).phase = .connected
  · rw [if_pos h1] at ho
    exact (List.mem_append.1 ho).imp_right List.mem_singleton.1
  · rw [if_neg h1] at ho
    by_cases h2 : (s.conn i).phase = .closing
    · rw [if_pos h2] at ho; exact .inl ho
    · rw [if_neg h2] at ho; exact .inl ho

theorem Stopped.emit {s : Sess} (h : Stopped s) (o : Out) : Stopped (s.emit o) := ⟨h.allow, h.st, h.tm, h.quiet⟩

theorem Stopped.closeOn {s : Sess} (h : Stopped s) (i : Nat) :
    Stopped (s.closeOn i) ∧ ∀ o ∈ (s.closeOn i).outs, o ∈ s.outs ∨ isNoise o = false := by
  refine ⟨⟨(frm_closeOn 0 i s).scal.allow.trans h.allow, (st_closeOn s i).trans h.st, (tm_closeOn s i).trans h.tm,
    fun j hj => ?_⟩, fun o ho => (outs_closeOn s i o ho).imp_right fun e => by rw [e]; rfl⟩
  rcases phase_closeOn s i j with e | e
  · rw [e]; exact h.quiet j ((frm_closeOn 0 i s).len ▸ hj)
  · exact .inl e

/-- `_close_connection` finds nothing open: it adds no noise -/
theorem Stopped.closeConn {s : Sess} (h : Stopped s) :
    Stopped s.closeConn ∧ ∀ o ∈ s.closeConn.outs, o ∈ s.outs ∨ isNoise o = false := by
  cases hp : s.proto with
  | none => rw [show s.closeConn = s by simp only [Sess.closeConn, hp]]; exact ⟨h, fun o ho => .inl ho⟩
  | some i =>
    obtain ⟨h1, h2⟩ := h.closeOn i
    rw [show s.closeConn = (s.closeOn i).withRetryCounter 0 by simp only [Sess.closeConn, hp]]
    -- with the closed state a variable the four fields are compared as they stand; otherwise the unifier unfolds
    -- `closeOn` inside each of them (here and in `manualStop_of_stopped`)
    generalize s.closeOn i = t at h1 h2 ⊢
    exact ⟨⟨h1.allow, h1.st, h1.tm, h1.quiet⟩, h2⟩

theorem Stopped.abortPending {s : Sess} (h : Stopped s) : Stopped s.abortPending := by
  refine ⟨(allow_abortPending s).trans h.allow, (st_abortPending s).trans h.st, (tm_abortPending s).trans h.tm, fun j hj => ?_⟩
  rcases phase_abortPending s j with e | ⟨e, _⟩
  · rw [e]; exact h.quiet j (len_abortPending s ▸ hj)
  · exact .inr e

theorem manualStop_of_stopped {s : Sess} (hs : Stopped s) (ho : s.outs = []) :
    Stopped s.manualStop ∧ ∀ o ∈ s.manualStop.outs, isNoise o = false := by
  have e : s.manualStop =
      ((((s.withTm {}).closeConn.withRetryCounter 0).withAllow false).withSt .idle).abortPending.emit .retStop := by
    unfold manualStop Sess.setSt
    rw [if_neg (fun h => St.noConfusion (hs.st.symm.trans h)), if_neg (fun h => nomatch h.2)]
  obtain ⟨h2, o2⟩ := Stopped.closeConn (s := s.withTm {}) ⟨hs.allow, hs.st, rfl, hs.quiet⟩
  rw [e]
  generalize (s.withTm {}).closeConn = t at h2 o2
  refine ⟨(Stopped.abortPending (s := ((t.withRetryCounter 0).withAllow false).withSt .idle) ⟨rfl, rfl, h2.tm, h2.quiet⟩).emit _,
    fun o hmem => ?_⟩
  rcases List.mem_append.1 hmem with h | h
  · rw [outs_abortPending] at h
    rcases o2 o h with h' | h'
    · rw [show (s.withTm {}).outs = s.outs from rfl, ho] at h'; cases h'
    · exact h'
  · cases List.mem_singleton.1 h; rfl

theorem connectionFailed_of_idle {s : Sess} (h : s.st = .idle) : s.connectionFailed = s := by
  simp only [connectionFailed, h]

theorem Stopped.dropEstab {s : Sess} (h : Stopped s) (p : Option Nat) :
    Stopped (s.dropEstab p) ∧ (s.dropEstab p).outs = s.outs := by
  cases p with
  | none => exact ⟨h, rfl⟩
  | some q =>
    simp only [Sess.dropEstab]
    by_cases he : s.estab = some q
    · have e : (s.withEstab none).setSt .idle = (s.withEstab none).withSt .idle := by
        unfold Sess.setSt; rw [if_neg (fun h => nomatch h.2)]
      rw [if_pos he, e]
      exact ⟨⟨h.allow, rfl, h.tm, h.quiet⟩, rfl⟩
    · rw [if_neg he]; exact ⟨h, rfl⟩

/-- automatic start is forbidden, so BGPPeering.connection_closed only forgets the established protocol -/
theorem Stopped.connectionClosed {s : Sess} (h : Stopped s) (p : Option Nat) :
    Stopped (s.connectionClosed p) ∧ (s.connectionClosed p).outs = s.outs := by
  unfold Sess.connectionClosed
  rw [if_neg (by rw [(h.dropEstab p).1.allow]; exact Bool.false_ne_true)]
  exact h.dropEstab p

theorem Stopped.connLost {s : Sess} (h : Stopped s) (c : Nat) :
    Stopped (s.connLost c) ∧ (s.connLost c).outs = s.outs ++ [.hConnLost c] := by
  have hS : Stopped ((s.setPhase c .closed).emit (.hConnLost c)) := by
    refine Stopped.emit (s := s.setPhase c .closed) ⟨h.allow, h.st, h.tm, fun j hj => ?_⟩ _
    rw [phase_setPhase]
    by_cases hc : c = j ∧ c < s.conns.length
    · rw [if_pos hc]; exact .inr rfl
    · rw [if_neg hc]; exact h.quiet j (len_setConn s c _ ▸ hj)
  unfold Sess.connLost
  by_cases hd : (s.conn c).disconnected
  · rw [if_pos hd]; exact hS.connectionClosed _
  · rw [if_neg hd, connectionFailed_of_idle hS.st]; exact ⟨hS, rfl⟩

end Yabgp
