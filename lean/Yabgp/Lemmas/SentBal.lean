/-
  Lemmas for the sent side of C18: every action of the session model keeps the *balance* between the per-type
  sent counters of every connection and the messages of that type written to that connection:
      sent counter after  -  sent counter before  =  number of such messages written by the action.
  `Bal s s'` states this for the step from `s` to `s'` (the outputs of `s'` extend those of `s`).  It is proved
  together with `NE` (Lemmas/NoEscape.lean: no exception left the step), because both hold for the same reason and
  under the same side condition: `Clean s s'` is their conjunction.  Actions that send nothing are `Quiet`, an
  instance of the frame relation of Lemmas/Ext.lean that implies both; the three send helpers are `Clean` when the
  tracked connection is up (`Norm`), and every call site of a send helper is reached with such a state (Props/C18b
  lifts this to every history).
-/
import Yabgp.Lemmas.Norm
import Yabgp.Lemmas.NoEscape

namespace Yabgp
namespace Sess

def wireType (w : Bytes) : Nat := (w.getD 18 0).toNat

/-- the statistics key a message type is counted under: the two ROUTE-REFRESH type codes (5, and 128 of the Cisco
    pre-standard capability) share the counter RouteRefresh -/
def wireKind (w : Bytes) : Nat := if wireType w = 128 then 5 else wireType w

def isW (i ty : Nat) : Out → Bool
  | .write j w => j == i && wireKind w == ty
  | _ => false

def isWrite : Out → Bool
  | .write _ _ => true
  | _ => false

def wcount (outs : List Out) (i ty : Nat) : Nat := outs.countP (isW i ty)

def sentOf (st : Stats) (ty : Nat) : Nat :=
  if ty = 1 then st.opens else if ty = 2 then st.updates else if ty = 3 then st.notifications
  else if ty = 4 then st.keepalives else if ty = 5 then st.routeRefresh else 0

def Bal (s s' : Sess) : Prop :=
  ∀ i ty, sentOf (s'.conn i).sent ty + wcount s.outs i ty = sentOf (s.conn i).sent ty + wcount s'.outs i ty

theorem Bal.refl (s : Sess) : Bal s s := fun _ _ => rfl

theorem Bal.trans {a b c : Sess} (h1 : Bal a b) (h2 : Bal b c) : Bal a c := by
  intro i ty
  have := h1 i ty
  have := h2 i ty
  omega

def Mute (o : Out) : Prop := isWrite o = false ∧ isEsc o = false

abbrev Quiet : Sess → Sess → Prop := Ext Conn.sent Mute

theorem quiet_tame : TameEv Conn.sent Mute :=
  { phase := fun _ _ => rfl, disc := fun _ _ => rfl, lose := fun _ => ⟨rfl, rfl⟩, hEstablished := ⟨rfl, rfl⟩,
    connect := fun _ => ⟨rfl, rfl⟩, hConnLost := fun _ => ⟨rfl, rfl⟩, hConnFailed := ⟨rfl, rfl⟩,
    retStart := fun _ => ⟨rfl, rfl⟩, retStop := ⟨rfl, rfl⟩ }

theorem quiet_ev : Events Quiet := quiet_tame.events

theorem sq_bumpRecv (s : Sess) (j : Nat) (g : Stats → Stats) : Quiet s (s.bumpRecv j g) := ext_bumpRecv s j g fun _ _ => rfl
theorem sq_setAsn4 (s : Sess) (j : Nat) : Quiet s (s.setAsn4 j) := ext_setAsn4 s j fun _ => rfl

/-! `bal`, `ne` and `clean` are declared in the namespace `Ext` so that `h.clean` can be written both for `h : Quiet s s'`
    and for the result of a generic lemma of Lemmas/Ext.lean, whose type is spelt with `Ext`. -/

theorem isW_of_not_write {o : Out} (h : isWrite o = false) (i ty : Nat) : isW i ty o = false := by
  cases o <;> first | rfl | cases h

theorem Ext.bal {s s' : Sess} (h : Ext Conn.sent Mute s s') : Bal s s' := by
  obtain ⟨hs, l, ho, hw⟩ := h
  intro i ty
  have : l.countP (isW i ty) = 0 := List.countP_eq_zero.mpr fun o m => by simp [isW_of_not_write (hw o m).1]
  rw [hs i, ho, wcount, wcount, List.countP_append, this]
  rfl

theorem Ext.ne {s s' : Sess} (h : Ext Conn.sent Mute s s') : NE s s' :=
  h.2.mono fun _ m => m.2

def Clean (s s' : Sess) : Prop := Bal s s' ∧ NE s s'

theorem Clean.refl (s : Sess) : Clean s s := ⟨.refl s, .refl s⟩
theorem Clean.trans {a b c : Sess} (h1 : Clean a b) (h2 : Clean b c) : Clean a c := ⟨h1.1.trans h2.1, h1.2.trans h2.2⟩
theorem Ext.clean {s s' : Sess} (h : Ext Conn.sent Mute s s') : Clean s s' := ⟨h.bal, h.ne⟩

theorem sentOf_incKeepalives (st : Stats) (ty : Nat) : sentOf (incKeepalives st) ty = sentOf st ty + if ty = 4 then 1 else 0 := by
  by_cases h : ty = 4
  · subst h; rfl
  · simp only [sentOf, incKeepalives, if_neg h, Nat.add_zero]
theorem sentOf_incNotifications (st : Stats) (ty : Nat) :
    sentOf (incNotifications st) ty = sentOf st ty + if ty = 3 then 1 else 0 := by
  by_cases h : ty = 3
  · subst h; rfl
  · simp only [sentOf, incNotifications, if_neg h, Nat.add_zero]
theorem sentOf_incOpens (st : Stats) (ty : Nat) : sentOf (incOpens st) ty = sentOf st ty + if ty = 1 then 1 else 0 := by
  by_cases h : ty = 1
  · subst h; rfl
  · simp only [sentOf, incOpens, if_neg h, Nat.add_zero]

theorem bal_count_write (s : Sess) (i t : Nat) (g : Stats → Stats) (w : Bytes) (hlt : i < s.conns.length)
    (hg : ∀ st ty, sentOf (g st) ty = sentOf st ty + if ty = t then 1 else 0) (hw : wireKind w = t) :
    Bal s ((s.bumpSent i g).emit (.write i w)) := by
  intro j ty
  have ho : ((s.bumpSent i g).emit (.write i w)).outs = s.outs ++ [.write i w] := rfl
  have hc : ((s.bumpSent i g).emit (.write i w)).conn j = (s.bumpSent i g).conn j := rfl
  rw [ho, hc]
  unfold wcount
  rw [List.countP_append]
  simp only [bumpSent, conn_setConn, List.countP_singleton, isW, hw]
  by_cases hj : i = j
  · subst hj
    simp only [hlt, and_self, ↓reduceIte, hg, beq_self_eq_true, Bool.true_and, beq_iff_eq]
    by_cases ht : t = ty
    · subst ht; simp; omega
    · have : ¬ ty = t := fun e => ht e.symm
      simp [ht, this]
  · have hji : ¬ (i == j) = true := by simpa using hj
    simp [hj]

theorem wireKind_of_type {w : Bytes} {t : Nat} (h : wireType w = t) (ht : t ≠ 128) : wireKind w = t := by
  unfold wireKind; rw [h, if_neg ht]

theorem wireType_keepalive : wireType constructKeepalive = 4 := by decide

/-- the type octet follows the 16-octet marker and the two length octets -/
theorem wireType_frame (len ty : Nat) (body : Bytes) (hty : ty < 256) : wireType (marker ++ be16 len ++ be8 ty ++ body) = ty := by
  have hm : marker.length = 16 := by decide
  unfold wireType
  simp only [List.getD_eq_getElem?_getD, List.append_assoc]
  rw [List.getElem?_append_right (by omega), List.getElem?_append_right (by rw [hm, be16_length]; decide)]
  simp [hm, be8, u8]
  omega

theorem wireType_header (ty : Nat) (body w : Bytes) (hty : ty < 256) (h : constructHeader ty body = some w) : wireType w = ty := by
  unfold constructHeader at h
  split at h
  · exact Option.some.inj h ▸ wireType_frame _ ty body hty
  · cases h

theorem wireType_notif (e sub : Nat) (d : Bytes) : wireType (notifWire e sub d) = 3 := wireType_frame _ 3 _ (by decide)

theorem wireType_openWire (s : Sess) (w : Bytes) (h : s.openWire = some w) : wireType w = 1 := by
  unfold openWire constructOpen at h
  simp only [Option.bind_eq_bind] at h
  cases hc : constructCaps s.cfg.localAs (negotiateCaps s.localCaps s.remote) with
  | none => simp [hc] at h
  | some capas =>
    simp only [hc, Option.bind_some] at h
    split at h
    · exact wireType_header _ _ _ (by decide) h
    · cases h

theorem clean_count_write (s : Sess) (i t : Nat) (g : Stats → Stats) (w : Bytes) (hlt : i < s.conns.length)
    (hg : ∀ st ty, sentOf (g st) ty = sentOf st ty + if ty = t then 1 else 0) (hw : wireKind w = t) :
    Clean s ((s.bumpSent i g).emit (.write i w)) :=
  ⟨bal_count_write s i t g w hlt hg hw, [.write i w], rfl, fun _ m => List.mem_singleton.mp m ▸ rfl⟩

theorem clean_sendKeepalive {s : Sess} {i : Nat} (h : Norm s i) : Clean s s.sendKeepalive := by
  rw [sendKeepalive_norm h]
  exact clean_count_write s i 4 _ _ h.lt sentOf_incKeepalives (wireKind_of_type wireType_keepalive (by decide))

theorem clean_sendNotification {s : Sess} {i : Nat} (h : Norm s i) (e sub : Nat) (d : Bytes)
    (he : e < 256) (hs : sub < 256) (hd : d.length + 21 < 65536) : Clean s (s.sendNotification e sub d) := by
  rw [sendNotification_norm h e sub d he hs hd]
  exact clean_count_write s i 3 _ _ h.lt sentOf_incNotifications (wireKind_of_type (wireType_notif e sub d) (by decide))

theorem sendOpen_none {s : Sess} {i : Nat} (hp : s.proto = some i) (hw : s.openWire = none) :
    s.sendOpen.1 = s.withLocalCaps (negotiateCaps s.localCaps s.remote) := by
  simp only [sendOpen, hp, hw]

theorem sendOpen_some {s : Sess} {i : Nat} {w : Bytes} (hp : s.proto = some i) (hup : transportUp (s.conn i) = true)
    (hw : s.openWire = some w) :
    s.sendOpen.1 = (((s.withLocalCaps (negotiateCaps s.localCaps s.remote)).bumpSent i incOpens).emit (.write i w)).emit
      (.hSendOpen i s.cfg.localAs s.cfg.holdCfg (s.bgpId.getD 0)) := by
  have hup' : transportUp ((s.withLocalCaps (negotiateCaps s.localCaps s.remote)).conn i) = true := hup
  simp only [sendOpen, hp, hw, writeOn, hup', ↓reduceIte]
  rfl

theorem clean_sendOpen {s : Sess} {i : Nat} (hp : s.proto = some i) (hlt : i < s.conns.length)
    (hup : transportUp (s.conn i) = true) : Clean s s.sendOpen.1 := by
  cases hw : s.openWire with
  | none =>
    rw [sendOpen_none hp hw]
    exact (ext_withLocalCaps s _).clean
  | some w =>
    rw [sendOpen_some hp hup hw]
    exact ((ext_withLocalCaps s _).clean.trans (clean_count_write _ i 1 incOpens w hlt sentOf_incOpens
      (wireKind_of_type (wireType_openWire s w hw) (by decide)))).trans (Ext.emit _ _ ⟨rfl, rfl⟩).clean

end Sess
end Yabgp
