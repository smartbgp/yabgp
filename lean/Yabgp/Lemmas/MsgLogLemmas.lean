/-
  Lemmas for C20 (message log): the invariant of the handler's directory, its preservation by every
  operation, and the bridge from the invariant to the audit of Spec/LogSpec.lean.
-/
import Yabgp.Model.MsgLogView

namespace Yabgp.MsgLog
open Yabgp.LogSpec (SLine SFile)

def allLines : List File → List Line
  | [] => []
  | f :: fs => f.lines ++ allLines fs

/-- every line is one record and the numbers are k, k+1, ... -/
def chain : Nat → List Line → Prop
  | _, [] => True
  | k, .record r :: ls => r.seq = k ∧ chain (k + 1) ls
  | _, .junk _ :: _ => False

theorem allLines_append (a b : List File) : allLines (a ++ b) = allLines a ++ allLines b := by
  induction a with
  | nil => rfl
  | cons f fs ih => simp [allLines, ih]

@[simp] theorem allLines_single (f : File) : allLines [f] = f.lines := by simp [allLines]

theorem chain_append (a b : List Line) : ∀ k, chain k (a ++ b) ↔ chain k a ∧ chain (k + a.length) b := by
  induction a with
  | nil => intro k; simp [chain]
  | cons l ls ih =>
    intro k
    cases l with
    | record r =>
      simp only [List.cons_append, chain, ih, List.length_cons, and_assoc, Nat.add_assoc, Nat.add_comm 1]
    | junk n => simp [chain]

theorem chain_single (k : Nat) (r : Rec) : chain k [.record r] ↔ r.seq = k := by simp [chain]

theorem chain_getLast {k : Nat} {ls : List Line} (h : chain k ls) {l : Line} (hl : ls.getLast? = some l) :
    ∃ r, l = .record r ∧ r.seq + 1 = k + ls.length := by
  obtain ⟨init, rfl⟩ := List.getLast?_eq_some_iff.mp hl
  have h2 := ((chain_append _ _ _).mp h).2
  cases l with
  | record r => exact ⟨r, rfl, by rw [h2.1, List.length_append]; rfl⟩
  | junk n => exact h2.elim

def Asc (fs : List File) : Prop := fs.Pairwise (fun a b => a.name < b.name)

theorem asc_append_single {init : List File} {last : File} :
    Asc (init ++ [last]) ↔ Asc init ∧ ∀ f ∈ init, f.name < last.name := by
  unfold Asc
  rw [List.pairwise_append]
  simp

theorem findFile_none {name : Nat} {fs : List File} : findFile name fs = none ↔ ∀ f ∈ fs, f.name ≠ name := by
  induction fs with
  | nil => exact ⟨fun _ _ h => (nomatch h), fun _ => rfl⟩
  | cons g gs ih =>
    rw [findFile, List.forall_mem_cons]
    split
    · next hg => exact ⟨fun h => (nomatch h), fun h => absurd hg h.1⟩
    · next hg => exact ih.trans ⟨fun h => ⟨hg, h⟩, fun h => h.2⟩

theorem findFile_some {name : Nat} {fs : List File} {f : File} (h : findFile name fs = some f) :
    f ∈ fs ∧ f.name = name := by
  induction fs with
  | nil => simp [findFile] at h
  | cons g gs ih =>
    simp only [findFile] at h
    split at h
    · rename_i hg
      cases h
      exact ⟨by simp, hg⟩
    · exact ⟨by simp [(ih h).1], (ih h).2⟩

theorem hasFile_iff {name : Nat} {fs : List File} : hasFile name fs = true ↔ ∃ f ∈ fs, f.name = name := by
  unfold hasFile
  cases h : findFile name fs with
  | none =>
    have := findFile_none.mp h
    simp only [Option.isSome_none, Bool.false_eq_true, false_iff, not_exists, not_and]
    exact this
  | some f =>
    simp only [Option.isSome_some, true_iff]
    exact ⟨f, findFile_some h⟩

theorem findFile_last {init : List File} {last : File} (h : ∀ f ∈ init, f.name ≠ last.name) :
    findFile last.name (init ++ [last]) = some last := by
  induction init with
  | nil => simp [findFile]
  | cons g gs ih =>
    have hg : g.name ≠ last.name := h g (by simp)
    simp only [List.cons_append, findFile, if_neg hg]
    exact ih (fun f hf => h f (by simp [hf]))

theorem updFile_last {init : List File} {last : File} (g : File → File) (h : ∀ f ∈ init, f.name ≠ last.name) :
    updFile last.name g (init ++ [last]) = init ++ [g last] := by
  induction init with
  | nil => simp [updFile]
  | cons x xs ih =>
    have hx : x.name ≠ last.name := h x (by simp)
    simp only [List.cons_append, updFile, if_neg hx]
    rw [ih (fun f hf => h f (by simp [hf]))]

theorem insertByName_lt {f : File} {gs : List File} (h : ∀ g ∈ gs, f.name < g.name) : insertByName f gs = f :: gs := by
  cases gs with
  | nil => rfl
  | cons g r =>
    have : f.name ≤ g.name := Nat.le_of_lt (h g (by simp))
    simp [insertByName, this]

theorem sortAsc_of_asc {fs : List File} (h : Asc fs) : sortAsc fs = fs := by
  induction fs with
  | nil => rfl
  | cons f r ih =>
    unfold Asc at h
    rw [List.pairwise_cons] at h
    simp only [sortAsc, ih h.2]
    exact insertByName_lt h.1

theorem scanLast_eq (gs : List File) : scanLast gs = (allLines gs.reverse).getLast? := by
  induction gs with
  | nil => rfl
  | cons f older ih =>
    rw [List.reverse_cons, allLines_append, allLines_single, List.getLast?_append]
    simp only [scanLast]
    cases hl : f.lines.getLast? with
    | none => simpa using ih
    | some l => simp

def noTails (fs : List File) : Prop := ∀ f ∈ fs, f.tail = none

/-- The invariant of the handler's directory (DESIGN §5 C20): the files are in the order of their names, no name
    lies in the future, the lines of all files read in that order are records numbered 1, 2, 3, ...,
    unterminated bytes exist at most at the end of the newest file, and while a handler runs there are none at
    all, its next number is the number of lines + 1 and the file it has open is the newest one. -/
structure SInv (w : World) : Prop where
  asc : Asc w.fs
  le : ∀ f ∈ w.fs, f.name ≤ w.clock
  num : chain 1 (allLines w.fs)
  old : noTails w.fs.dropLast
  run : ∀ h, w.h = some h →
    noTails w.fs ∧ h.seq = (allLines w.fs).length + 1 ∧ w.fs.getLast?.map (·.name) = some h.cur
  ref : w.refused = false

theorem nil_or_concat {α : Type} (l : List α) : l = [] ∨ ∃ init last, l = init ++ [last] := by
  cases h : l.getLast? with
  | none => exact Or.inl (List.getLast?_eq_none_iff.mp h)
  | some a =>
    obtain ⟨ys, hy⟩ := List.getLast?_eq_some_iff.mp h
    exact Or.inr ⟨ys, a, hy⟩

theorem noTails_append_single {init : List File} {last : File} :
    noTails (init ++ [last]) ↔ noTails init ∧ last.tail = none := by
  unfold noTails
  constructor
  · intro h; exact ⟨fun f hf => h f (by simp [hf]), h last (by simp)⟩
  · rintro ⟨h1, h2⟩ f hf
    rcases List.mem_append.mp hf with hf | hf
    · exact h1 f hf
    · rw [List.mem_singleton.mp hf]; exact h2

/-- The invariant of a non-empty directory `init ++ [last]`, said about its parts: `last` is the newest file,
    the only one that may end in unterminated bytes, and the one a running handler `ho` writes to. -/
structure Tip (init : List File) (last : File) (clock : Nat) (ho : Option Handler) : Prop where
  asc : Asc init
  lt : ∀ f ∈ init, f.name < last.name
  le : last.name ≤ clock
  num : chain 1 (allLines init ++ last.lines)
  old : noTails init
  run : ∀ h, ho = some h →
    last.tail = none ∧ h.seq = (allLines init ++ last.lines).length + 1 ∧ h.cur = last.name

theorem Tip.ne {init : List File} {last : File} {clock : Nat} {ho : Option Handler} (ht : Tip init last clock ho) :
    ∀ f ∈ init, f.name ≠ last.name := fun f hf => Nat.ne_of_lt (ht.lt f hf)

theorem Tip.sinv {w : World} {init : List File} {last : File} (hfs : w.fs = init ++ [last])
    (hrf : w.refused = false) (ht : Tip init last w.clock w.h) : SInv w where
  asc := by rw [hfs]; exact asc_append_single.mpr ⟨ht.asc, ht.lt⟩
  le := by
    rw [hfs]
    intro f hf
    rcases List.mem_append.mp hf with hf | hf
    · exact Nat.le_trans (Nat.le_of_lt (ht.lt f hf)) ht.le
    · rw [List.mem_singleton.mp hf]; exact ht.le
  num := by rw [hfs, allLines_append, allLines_single]; exact ht.num
  old := by rw [hfs, List.dropLast_concat]; exact ht.old
  run := by
    intro h hh
    obtain ⟨h1, h2, h3⟩ := ht.run h hh
    rw [hfs, allLines_append, allLines_single, List.getLast?_concat]
    exact ⟨noTails_append_single.mpr ⟨ht.old, h1⟩, h2, congrArg some h3.symm⟩
  ref := hrf

theorem SInv.tip {w : World} (hw : SInv w) {init : List File} {last : File} (hfs : w.fs = init ++ [last]) :
    Tip init last w.clock w.h := by
  have hasc := hw.asc
  have hle := hw.le
  have hnum := hw.num
  have hold := hw.old
  have hrun := hw.run
  rw [hfs] at hasc hle hold hrun
  rw [hfs, allLines_append, allLines_single] at hnum
  rw [allLines_append, allLines_single, List.getLast?_concat] at hrun
  rw [List.dropLast_concat] at hold
  exact {
    asc := (asc_append_single.mp hasc).1
    lt := (asc_append_single.mp hasc).2
    le := hle last (by simp)
    num := hnum
    old := hold
    run := fun h hh =>
      ⟨(noTails_append_single.mp (hrun h hh).1).2, (hrun h hh).2.1, (Option.some.inj (hrun h hh).2.2).symm⟩ }

theorem SInv.running {w : World} (hw : SInv w) {h : Handler} (hh : w.h = some h) :
    ∃ init last, w.fs = init ++ [last] ∧ Tip init last w.clock (some h) := by
  rcases nil_or_concat w.fs with hfs | ⟨init, last, hfs⟩
  · have := (hw.run h hh).2.2
    rw [hfs] at this
    cases this
  · exact ⟨init, last, hfs, hh ▸ hw.tip hfs⟩

theorem sinv_empty : SInv empty where
  asc := List.Pairwise.nil
  le := by intro f hf; cases hf
  num := trivial
  old := by intro f hf; cases hf
  run := by intro h hh; cases hh
  ref := rfl

/-- the lines an operation adds to the log: `alive` = a handler is running, `n` = lines written so far -/
def emit (alive : Bool) (n : Nat) : Op → List Line
  | .event ty plen => if alive then [.record { seq := n + 1, ty := ty, len := plen + digits (n + 1) }] else []
  | .crash ty plen off =>
    if alive && decide (plen + digits (n + 1) < off) then
      [.record { seq := n + 1, ty := ty, len := plen + digits (n + 1) }] else []
  | _ => []

def aliveAfter (alive : Bool) : Op → Bool
  | .restart => true
  | .crash _ _ _ => false
  | _ => alive

theorem appendFull_clean {r : Rec} {f : File} (h : f.tail = none) :
    appendFull r f = { f with lines := f.lines ++ [.record r] } := by
  unfold appendFull; rw [h]

theorem appendPrefix_clean {r : Rec} {off : Nat} {f : File} (h : f.tail = none) :
    (appendPrefix r off f).name = f.name ∧
    (appendPrefix r off f).lines = f.lines ++ (if r.len < off then [.record r] else []) := by
  unfold appendPrefix
  split
  · next h0 => rw [h0, if_neg (Nat.not_lt_zero _)]; exact ⟨rfl, (List.append_nil _).symm⟩
  · split
    · next h1 => rw [if_neg (Nat.not_lt.mpr h1), appendTorn, h]; exact ⟨rfl, (List.append_nil _).symm⟩
    · next h1 => rw [if_pos (Nat.lt_of_not_le h1), appendFull_clean h]; exact ⟨rfl, rfl⟩

theorem openAppend_of_mem {fs : List File} {name : Nat} (h : ∃ f ∈ fs, f.name = name) : openAppend fs name = fs := by
  unfold openAppend
  rw [if_pos (hasFile_iff.mpr h)]

theorem openAppend_of_new {fs : List File} {name : Nat} (h : ∀ f ∈ fs, f.name ≠ name) :
    openAppend fs name = fs ++ [{ name := name, lines := [], tail := none }] := by
  unfold openAppend
  rw [if_neg (fun hf => let ⟨f, hm, hn⟩ := hasFile_iff.mp hf; h f hm hn)]

/-- write_msg, whole or cut short by a crash: the handler's own file gets the lines `ls` appended, which continue
    the numbering; `ho'` is the handler afterwards -/
theorem SInv.append {w : World} (hw : SInv w) {h : Handler} (hh : w.h = some h) (g : File → File)
    {ls : List Line} {ho' : Option Handler}
    (hg : ∀ f, f.tail = none →
      (g f).name = f.name ∧ (g f).lines = f.lines ++ ls ∧ (ho'.isSome → (g f).tail = none))
    (hc : chain h.seq ls) (hr : ∀ h', ho' = some h' → h'.seq = h.seq + ls.length ∧ h'.cur = h.cur) :
    SInv { w with fs := updFile h.cur g w.fs, h := ho' } ∧
    allLines (updFile h.cur g w.fs) = allLines w.fs ++ ls := by
  obtain ⟨init, last, hfs, ht⟩ := hw.running hh
  obtain ⟨htail, hseq, hcur⟩ := ht.run h rfl
  obtain ⟨hn, hl, htl⟩ := hg last htail
  have hfs' : updFile h.cur g w.fs = init ++ [g last] := by rw [hfs, hcur, updFile_last g ht.ne]
  refine ⟨Tip.sinv hfs' hw.ref ?_, by rw [hfs', hfs]; simp [allLines_append, hl]⟩
  exact {
    asc := ht.asc
    lt := hn ▸ ht.lt
    le := hn ▸ ht.le
    old := ht.old
    num := by
      rw [hl, ← List.append_assoc, chain_append, Nat.add_comm, ← hseq]
      exact ⟨ht.num, hc⟩
    run := by
      intro h' hh'
      obtain ⟨h1, h2⟩ := hr h' hh'
      refine ⟨htl (congrArg Option.isSome hh'), ?_, by rw [h2, hcur, hn]⟩
      rw [h1, hseq, hl]
      simp only [List.length_append]
      omega }

theorem step_tick (m : Nat) (w : World) (dt : Nat) (hw : SInv w) : SInv (step m w (.tick dt)) where
  asc := hw.asc
  le := fun f hf => Nat.le_trans (hw.le f hf) (Nat.le_add_right _ _)
  num := hw.num
  old := hw.old
  run := hw.run
  ref := hw.ref

theorem checkFileSize_spec (m : Nat) (w : World) (h : Handler) (hw : SInv w) (hh : w.h = some h) :
    SInv (checkFileSize m w h) ∧ allLines (checkFileSize m w h).fs = allLines w.fs ∧
    (checkFileSize m w h).h.isSome = true := by
  unfold checkFileSize
  split
  · obtain ⟨init, last, hfs, ht⟩ := hw.running hh
    obtain ⟨htail, hseq, hcur⟩ := ht.run h rfl
    by_cases hc : last.name = w.clock
    · -- the clock has not moved since the newest file was created: open(name, 'a') finds that file
      have hopen : openAppend w.fs w.clock = init ++ [last] := by
        rw [openAppend_of_mem (hfs ▸ ⟨last, by simp, hc⟩), hfs]
      refine ⟨Tip.sinv hopen hw.ref { ht with run := ?_ }, by rw [hopen, hfs], rfl⟩
      rintro _ ⟨⟩
      exact ⟨htail, hseq, hc.symm⟩
    · have hlt : ∀ f ∈ w.fs, f.name < w.clock := by
        rw [hfs]
        intro f hf
        rcases List.mem_append.mp hf with hf | hf
        · exact Nat.lt_of_lt_of_le (ht.lt f hf) ht.le
        · rw [List.mem_singleton.mp hf]; exact Nat.lt_of_le_of_ne ht.le hc
      have hopen := openAppend_of_new fun f hf => Nat.ne_of_lt (hlt f hf)
      refine ⟨Tip.sinv hopen hw.ref ?_, by rw [hopen]; simp [allLines_append, allLines], rfl⟩
      exact {
        asc := hw.asc
        lt := hlt
        le := Nat.le_refl _
        num := by rw [List.append_nil]; exact hw.num
        old := fun f hf => (hw.run h hh).1 f hf
        run := by
          rintro _ ⟨⟩
          exact ⟨rfl, by rw [List.append_nil]; exact (hw.run h hh).2.1, rfl⟩ }
  · exact ⟨hw, rfl, by rw [hh]; rfl⟩

theorem restart_snoc {w : World} (hw : SInv w) {init : List File} {last : File} (hfs : w.fs = init ++ [last]) :
    restart w = { w with fs := init ++ [dropTail last],
                         h := some { seq := (allLines w.fs).length + 1, cur := last.name }, refused := false } := by
  have ht := hw.tip hfs
  have hfs' : updFile last.name dropTail w.fs = init ++ [dropTail last] := by rw [hfs, updFile_last _ ht.ne]
  have hasc' : Asc (init ++ [dropTail last]) := asc_append_single.mpr ⟨ht.asc, ht.lt⟩
  have hlines : allLines (init ++ [dropTail last]) = allLines w.fs := by
    rw [hfs, allLines_append, allLines_append]; rfl
  have hg : (sortAsc w.fs).getLast? = some last := by rw [sortAsc_of_asc hw.asc, hfs, List.getLast?_concat]
  have hopen : openAppend (init ++ [dropTail last]) last.name = init ++ [dropTail last] :=
    openAppend_of_mem ⟨dropTail last, by simp, rfl⟩
  unfold restart
  simp only [hg, hfs', sortAsc_of_asc hasc', scanLast_eq, List.reverse_reverse, hlines]
  cases hl : (allLines w.fs).getLast? with
  | none => simp only [startWith, hopen, List.getLast?_eq_none_iff.mp hl]; rfl
  | some l =>
    obtain ⟨r, rfl, hr⟩ := chain_getLast hw.num hl
    simp only [startWith, hopen, hr, Nat.add_comm 1]

/-- the repaired start-up: always succeeds on a directory that satisfies the invariant, loses no line,
    removes the unterminated bytes, continues with the next number -/
theorem restart_spec (w : World) (hw : SInv w) :
    SInv (restart w) ∧ allLines (restart w).fs = allLines w.fs ∧ (restart w).h.isSome = true ∧
    (restart w).refused = false := by
  rcases nil_or_concat w.fs with hfs | ⟨init, last, hfs⟩
  · have e : restart w = { w with fs := [] ++ [{ name := w.clock, lines := [], tail := none }],
                                  h := some { seq := 1, cur := w.clock }, refused := false } := by
      unfold restart; rw [hfs]; rfl
    rw [e]
    refine ⟨Tip.sinv rfl rfl ?_, by rw [hfs]; rfl, rfl, rfl⟩
    exact {
      asc := List.Pairwise.nil
      lt := fun f hf => nomatch hf
      le := Nat.le_refl _
      num := trivial
      old := fun f hf => nomatch hf
      run := by rintro _ ⟨⟩; exact ⟨rfl, rfl, rfl⟩ }
  · have ht := hw.tip hfs
    rw [restart_snoc hw hfs]
    refine ⟨Tip.sinv rfl rfl { ht with run := ?_ }, by rw [hfs, allLines_append, allLines_append]; rfl, rfl, rfl⟩
    rintro _ ⟨⟩
    exact ⟨rfl, by rw [hfs, allLines_append, allLines_single]; rfl, rfl⟩

theorem step_spec (m : Nat) (w : World) (op : Op) (hw : SInv w) :
    SInv (step m w op) ∧
    allLines (step m w op).fs = allLines w.fs ++ emit w.h.isSome (allLines w.fs).length op ∧
    (step m w op).h.isSome = aliveAfter w.h.isSome op := by
  cases op with
  | tick dt => exact ⟨step_tick m w dt hw, (List.append_nil _).symm, rfl⟩
  | event ty plen =>
    cases hh : w.h with
    | none => simp [step, stepWith, hh, emit, aliveAfter, hw]
    | some h =>
      obtain ⟨h1, h2⟩ := hw.append hh (appendFull (mkRec h ty plen)) (ls := [.record (mkRec h ty plen)])
        (ho' := some { h with seq := h.seq + 1 })
        (fun f hf => by rw [appendFull_clean hf]; exact ⟨rfl, rfl, fun _ => hf⟩)
        ((chain_single _ _).mpr rfl) (by rintro _ ⟨⟩; exact ⟨rfl, rfl⟩)
      simp only [step, stepWith, hh]
      refine ⟨h1, h2.trans ?_, rfl⟩
      rw [mkRec, (hw.run h hh).2.1]; rfl
  | rotateCheck =>
    cases hh : w.h with
    | none => simp [step, stepWith, hh, emit, aliveAfter, hw]
    | some h =>
      obtain ⟨h1, h2, h3⟩ := checkFileSize_spec m w h hw hh
      simp only [step, stepWith, hh]
      exact ⟨h1, h2.trans (List.append_nil _).symm, h3⟩
  | crash ty plen off =>
    cases hh : w.h with
    | none => simp [step, stepWith, hh, emit, aliveAfter, hw]
    | some h =>
      obtain ⟨h1, h2⟩ := hw.append hh (appendPrefix (mkRec h ty plen) off) (ho' := none)
        (fun f hf => ⟨(appendPrefix_clean hf).1, (appendPrefix_clean hf).2, fun hn => nomatch hn⟩)
        (by split
            · exact (chain_single _ _).mpr rfl
            · trivial)
        (by rintro _ ⟨⟩)
      simp only [step, stepWith, hh]
      refine ⟨h1, h2.trans ?_, rfl⟩
      rw [mkRec, (hw.run h hh).2.1]
      simp [emit]
  | restart =>
    obtain ⟨h1, h2, h3, _⟩ := restart_spec w hw
    exact ⟨h1, h2.trans (List.append_nil _).symm, h3⟩

theorem sinv_run (m : Nat) : ∀ (ops : List Op) (w : World), SInv w → SInv (run m w ops) := by
  intro ops
  induction ops with
  | nil => intro w hw; exact hw
  | cons op r ih => intro w hw; exact ih _ (step_spec m w op hw).1

theorem view_insertByName (f : File) (gs : List File) :
    view (insertByName f gs) = LogSpec.insertName (viewFile f) (view gs) := by
  induction gs with
  | nil => rfl
  | cons g r ih =>
    show view (if f.name ≤ g.name then _ else _) = if f.name ≤ g.name then _ else _
    split
    · rfl
    · exact congrArg (viewFile g :: ·) ih

theorem view_sortAsc (fs : List File) : view (sortAsc fs) = LogSpec.byName (view fs) := by
  induction fs with
  | nil => rfl
  | cons f r ih =>
    show view (insertByName f (sortAsc r)) = LogSpec.insertName (viewFile f) (LogSpec.byName (view r))
    rw [← ih, view_insertByName]

theorem distinctNames_view : ∀ {fs : List File}, Asc fs → LogSpec.distinctNames (view fs) = true
  | [], _ => rfl
  | [_], _ => rfl
  | _ :: g :: _, h =>
    have h' := List.pairwise_cons.mp h
    Bool.and_eq_true_iff.mpr ⟨decide_eq_true (h'.1 g List.mem_cons_self), distinctNames_view h'.2⟩

theorem viewLines_append (a b : List Line) : viewLines (a ++ b) = viewLines a ++ viewLines b := by
  induction a with
  | nil => rfl
  | cons l ls ih => simp [viewLines, ih]

theorem specLines_view (fs : List File) : LogSpec.allLines (view fs) = viewLines (allLines fs) := by
  induction fs with
  | nil => rfl
  | cons f r ih => simp [view, LogSpec.allLines, allLines, viewLines_append, ih, viewFile]

theorem seqRun_view {ls : List Line} : ∀ {k : Nat}, chain k ls → LogSpec.seqRun k (viewLines ls) = true := by
  induction ls with
  | nil => intro k _; rfl
  | cons l r ih =>
    intro k h
    cases l with
    | record rc =>
      simp only [chain] at h
      simp [viewLines, viewLine, LogSpec.seqRun, h.1, ih h.2]
    | junk n => exact absurd h (by simp [chain])

theorem noTorn_view : ∀ {fs : List File}, noTails fs → LogSpec.noTorn (view fs) = true
  | [], _ => rfl
  | f :: _, h =>
    Bool.and_eq_true_iff.mpr ⟨decide_eq_true (congrArg tailBytes (h f List.mem_cons_self)),
      noTorn_view fun g hg => h g (List.mem_cons_of_mem _ hg)⟩

theorem tornOnlyLast_view : ∀ {fs : List File}, noTails fs.dropLast → LogSpec.tornOnlyLast (view fs) = true
  | [], _ => rfl
  | [_], _ => rfl
  | f :: _ :: _, h =>
    Bool.and_eq_true_iff.mpr ⟨decide_eq_true (congrArg tailBytes (h f List.mem_cons_self)),
      tornOnlyLast_view fun g hg => h g (List.mem_cons_of_mem _ hg)⟩

theorem audit_of_sinv {w : World} (hw : SInv w) : auditWorld w = true := by
  unfold auditWorld LogSpec.audit
  rw [← view_sortAsc, sortAsc_of_asc hw.asc, distinctNames_view hw.asc, specLines_view, seqRun_view hw.num]
  cases hh : w.h with
  | none => simp [tornOnlyLast_view hw.old]
  | some h => simp [noTorn_view (hw.run h hh).1]

end Yabgp.MsgLog
