/-
  Where the BGP-LS attribute is decoded inside Update.parse_attributes (Model/Tlv.lean `parseAttrsLs`): the loop on
  lists without a LINK_STATE attribute, the protocol id a list yields, and permutation invariance of the two things
  the result for a list with one LINK_STATE attribute depends on (Props/C15b).
-/
import Yabgp.Lemmas.TlvLemmas

namespace Yabgp.Tlv
open Yabgp

variable {β γ ε : Type}

/-- `bgpls_pro_id` after one more attribute -/
def proStep (acc : Option Nat) : Item β → Option Nat
  | .mpReach _ p => if truthy p then p else acc
  | _ => acc

def finalPro (init : Option Nat) (items : List (Item β)) : Option Nat := items.foldl proStep init

/-- the protocol id the attribute list yields: that of its MP_REACH_NLRI when truthy, else None -/
def proOf (items : List (Item β)) : Option Nat := finalPro none items

def plainOf : Item β → Option (Nat × Dec β γ)
  | .mpReach v _ => some (14, .val v)
  | .other c v => some (c, .val v)
  | .linkState _ => none

theorem finalPro_cons (init : Option Nat) (it : Item β) (r : List (Item β)) :
    finalPro init (it :: r) = finalPro (proStep init it) r := rfl

theorem finalPro_append (init : Option Nat) (xs ys : List (Item β)) :
    finalPro init (xs ++ ys) = finalPro (finalPro init xs) ys := by
  simp [finalPro, List.foldl_append]

theorem finalPro_noMp (init : Option Nat) (r : List (Item β)) (h : ∀ v p, Item.mpReach v p ∉ r) :
    finalPro init r = init := by
  induction r generalizing init with
  | nil => rfl
  | cons it r ih =>
    rw [finalPro_cons]
    have hr : ∀ v p, Item.mpReach v p ∉ r := fun v p hm => h v p (by simp [hm])
    cases it with
    | mpReach v p => exact absurd (by simp) (h v p)
    | _ => exact ih init hr

theorem finalPro_of_mem (init : Option Nat) (r : List (Item β)) (hn : (r.map Item.code).Nodup)
    (v : β) (p : Option Nat) (hm : Item.mpReach v p ∈ r) :
    finalPro init r = if truthy p then p else init := by
  induction r generalizing init with
  | nil => cases hm
  | cons it r ih =>
    rw [List.map_cons, List.nodup_cons] at hn
    rw [finalPro_cons]
    rcases List.mem_cons.mp hm with h | h
    · subst h
      rw [finalPro_noMp _ r fun v' p' hm' => hn.1 (List.mem_map_of_mem (a := Item.mpReach v' p') hm')]
      rfl
    · -- `it` is not MP_REACH_NLRI, whose code occurs further on
      have : proStep init it = init := by
        cases it with
        | mpReach v' p' => exact absurd (List.mem_map_of_mem h) hn.1
        | _ => rfl
      rw [this]
      exact ih init hn.2 h

theorem truthy_finalPro_mem (r : List (Item β)) (h : truthy (finalPro none r) = true) :
    ∃ v p, Item.mpReach v p ∈ r := by
  apply Classical.byContradiction
  intro hno
  have : ∀ v p, Item.mpReach v p ∉ r := fun v p hm => hno ⟨v, p, hm⟩
  rw [finalPro_noMp none r this] at h
  simp [truthy] at h

theorem paLoop_noLs (lsDec : Option Nat → Bytes → Except ε γ) (s : PaState β γ) (r : List (Item β))
    (h : ∀ b, Item.linkState b ∉ r) :
    paLoop lsDec s r =
      .ok { pro := finalPro s.pro r, deferred := s.deferred, attrs := s.attrs ++ r.filterMap plainOf } := by
  induction r generalizing s with
  | nil => simp [paLoop, finalPro]
  | cons it r ih =>
    have hr : ∀ b, Item.linkState b ∉ r := fun b hm => h b (by simp [hm])
    cases it with
    | linkState b => exact absurd (by simp) (h b)
    | _ =>
      simp only [paLoop, paStep]
      rw [ih _ hr]
      simp [finalPro_cons, proStep, plainOf]

theorem paLoop_append (lsDec : Option Nat → Bytes → Except ε γ) (s : PaState β γ) (xs ys : List (Item β)) :
    paLoop lsDec s (xs ++ ys) =
      match paLoop lsDec s xs with
      | .ok s' => paLoop lsDec s' ys
      | .error e => .error e := by
  induction xs generalizing s with
  | nil => simp [paLoop]
  | cons it r ih =>
    simp only [List.cons_append, paLoop]
    cases paStep lsDec s it with
    | ok s' => exact ih s'
    | error e => rfl

theorem plain_keys_sublist (r : List (Item β)) :
    ((r.filterMap (plainOf (γ := γ))).map (·.1)).Sublist (r.map Item.code) := by
  induction r with
  | nil => simp
  | cons it r ih =>
    cases it with
    | linkState b =>
      simp only [List.filterMap_cons, plainOf, List.map_cons]
      exact List.Sublist.cons _ ih
    | _ => simpa [List.filterMap_cons, plainOf, Item.code] using ih

theorem plain_keys_sub (r : List (Item β)) (k : Nat) (h : k ∉ r.map Item.code) :
    k ∉ ((r.filterMap (plainOf (γ := γ))).map (·.1)) :=
  fun hm => h ((plain_keys_sublist r).subset hm)

theorem proOf_perm (xs ys : List (Item β)) (hp : xs.Perm ys) (hn : (xs.map Item.code).Nodup) :
    proOf xs = proOf ys := by
  have hny : (ys.map Item.code).Nodup := (hp.map Item.code).nodup_iff.mp hn
  unfold proOf
  by_cases h : ∃ v p, Item.mpReach v p ∈ xs
  · obtain ⟨v, p, hm⟩ := h
    rw [finalPro_of_mem none xs hn v p hm, finalPro_of_mem none ys hny v p (hp.mem_iff.mp hm)]
  · have hx : ∀ v p, Item.mpReach v p ∉ xs := fun v p hm => h ⟨v, p, hm⟩
    have hy : ∀ v p, Item.mpReach v p ∉ ys := fun v p hm => h ⟨v, p, hp.mem_iff.mpr hm⟩
    rw [finalPro_noMp none xs hx, finalPro_noMp none ys hy]

theorem pyGet_plain_perm (xs ys : List (Item β)) (hp : xs.Perm ys) (hn : (xs.map Item.code).Nodup) (k : Nat) :
    pyGet k (xs.filterMap (plainOf (γ := γ))) = pyGet k (ys.filterMap (plainOf (γ := γ))) :=
  pyGet_perm (hp.filterMap _) ((plain_keys_sublist xs).nodup hn) k

end Yabgp.Tlv
