/-
  The "never stuck" invariant of C02, on the control skeleton (`Lemmas/Core.lean`).
-/
import Yabgp.Lemmas.Core

namespace Yabgp
namespace Core

def InSess (st : St) : Prop := st = .openSent ∨ st = .openConfirm ∨ st = .established

def Up (c : Core) (i : Nat) : Prop := i < c.conns.length ∧ c.conn i = (.connected, false)

/-- some connection was closed by us and its connectionLost is still owed by the reactor -/
def Owed (c : Core) : Prop := ∃ i, i < c.conns.length ∧ c.conn i = (.closing, true)

def Fresh (c : Core) : Prop := ∀ j, (c.conn j).1 = .connecting → (c.conn j).2 = false

/-- `noActive`: Active is never the state after an event - the one action that sets it, `connectionFailed` in OpenSent,
    goes on to Idle because the tracked protocol is the established one there (`sess`) - so the `.active` branches of
    the model and of the case splits over `St` are dead on every run. -/
structure Heal (c : Core) : Prop where
  noActive : c.st ≠ .active
  sess : InSess c.st → ∃ i, c.proto = some i ∧ c.estab = some i ∧ Up c i
  conn : c.allow = true → c.st = .connect → c.retry = true ∨ ∃ i, c.proto = some i ∧ Up c i
  idle : c.allow = true → c.st = .idle → c.idleHold = true ∨ Owed c
  fresh : Fresh c

theorem getD_set (l : List (Phase × Bool)) (i j : Nat) (x d : Phase × Bool) :
    (l.set i x).getD j d = if i = j ∧ i < l.length then x else l.getD j d := by
  simp only [List.getD_eq_getElem?_getD, List.getElem?_set]
  by_cases h : i = j
  · subst h
    by_cases h2 : i < l.length <;> simp [h2]
  · simp [h]

theorem getD_append_default {α : Type} (l : List α) (j : Nat) (d : α) : (l ++ [d]).getD j d = l.getD j d := by
  induction l generalizing j with
  | nil => cases j <;> rfl
  | cons a l ih => cases j with
    | zero => rfl
    | succ j => exact ih j

theorem conn_closeOn (c : Core) (i j : Nat) :
    (c.closeOn i).conn j =
      if i = j ∧ i < c.conns.length ∧ ((c.conn i).1 = .connected ∨ (c.conn i).1 = .closing) then (.closing, true) else c.conn j := by
  unfold closeOn conn
  by_cases h : (c.conns.getD i (.connecting, false)).1 = .connected ∨ (c.conns.getD i (.connecting, false)).1 = .closing
  · simp only [h, if_true, getD_set, and_true]
  · simp only [h, if_false, and_false]

theorem len_closeOn (c : Core) (i : Nat) : (c.closeOn i).conns.length = c.conns.length := by
  unfold closeOn; split <;> simp

theorem conn_setPhase (c : Core) (i j : Nat) (p : Phase) :
    (c.setPhase i p).conn j = if i = j ∧ i < c.conns.length then (p, (c.conn i).2) else c.conn j := by
  simp only [setPhase, conn, getD_set]

theorem len_setPhase (c : Core) (i : Nat) (p : Phase) : (c.setPhase i p).conns.length = c.conns.length := by
  simp [setPhase]

theorem Fresh.of_conns {c c' : Core} (h : Fresh c) (hc : c'.conns = c.conns) : Fresh c' := by
  intro j; simp only [conn, hc]; exact h j

theorem fresh_setPhase {c : Core} (h : Fresh c) (i : Nat) (p : Phase) (hp : p ≠ .connecting) : Fresh (c.setPhase i p) := by
  intro j hj
  rw [conn_setPhase] at hj ⊢
  split at hj
  · exact absurd hj hp
  · rename_i hh; rw [if_neg hh]; exact h j hj

theorem abortPending_scalars (c : Core) :
    c.abortPending.st = c.st ∧ c.abortPending.retry = c.retry ∧ c.abortPending.idleHold = c.idleHold ∧
    c.abortPending.allow = c.allow ∧ c.abortPending.proto = c.proto ∧ c.abortPending.estab = c.estab ∧
    c.abortPending.conns.length = c.conns.length ∧ c.abortPending.pending = none := by
  unfold abortPending
  split
  · rename_i h; simp [h]
  · split <;> simp [setPhase, withPending]

@[simp] theorem abortPending_st (c : Core) : c.abortPending.st = c.st := (abortPending_scalars c).1
@[simp] theorem abortPending_retry (c : Core) : c.abortPending.retry = c.retry := (abortPending_scalars c).2.1
@[simp] theorem abortPending_idleHold (c : Core) : c.abortPending.idleHold = c.idleHold := (abortPending_scalars c).2.2.1
@[simp] theorem abortPending_allow (c : Core) : c.abortPending.allow = c.allow := (abortPending_scalars c).2.2.2.1
@[simp] theorem abortPending_proto (c : Core) : c.abortPending.proto = c.proto := (abortPending_scalars c).2.2.2.2.1
@[simp] theorem abortPending_estab (c : Core) : c.abortPending.estab = c.estab := (abortPending_scalars c).2.2.2.2.2.1
@[simp] theorem len_abortPending (c : Core) : c.abortPending.conns.length = c.conns.length := (abortPending_scalars c).2.2.2.2.2.2.1
@[simp] theorem abortPending_pending (c : Core) : c.abortPending.pending = none := (abortPending_scalars c).2.2.2.2.2.2.2

theorem conn_abortPending (c : Core) (j : Nat) :
    c.abortPending.conn j =
      if c.pending = some j ∧ j < c.conns.length ∧ (c.conn j).1 = .connecting then (.closed, (c.conn j).2) else c.conn j := by
  unfold abortPending
  cases c.pending with
  | none => rw [if_neg (fun h => nomatch h.1)]
  | some k =>
    show (if (c.conn k).1 = .connecting then (c.withPending none).setPhase k .closed else c.withPending none).conn j = _
    by_cases hph : (c.conn k).1 = .connecting
    · rw [if_pos hph, conn_setPhase]
      show (if k = j ∧ k < c.conns.length then (.closed, (c.conn k).2) else c.conn j) = _
      by_cases hk : k = j ∧ k < c.conns.length
      · obtain ⟨rfl, hl⟩ := hk
        rw [if_pos ⟨rfl, hl⟩, if_pos ⟨rfl, hl, hph⟩]
      · rw [if_neg hk, if_neg (fun h => hk (by cases h.1; exact ⟨rfl, h.2.1⟩))]
    · rw [if_neg hph, if_neg (fun h => hph (by cases h.1; exact h.2.2))]; rfl

theorem conn_abortPending_of_ne {c : Core} {j : Nat} (h : (c.conn j).1 ≠ .connecting) : c.abortPending.conn j = c.conn j := by
  rw [conn_abortPending, if_neg fun hh => h hh.2.2]

def Shrunk (c c' : Core) : Prop :=
  c'.conns.length = c.conns.length ∧ ∀ j, c'.conn j = c.conn j ∨ (c'.conn j).1 = .closing ∨ (c'.conn j).1 = .closed

theorem Shrunk.refl (c : Core) : Shrunk c c := ⟨rfl, fun _ => .inl rfl⟩

theorem Shrunk.trans {a b c : Core} (h1 : Shrunk a b) (h2 : Shrunk b c) : Shrunk a c :=
  ⟨h2.1.trans h1.1, fun j => (h2.2 j).elim (fun e => by rw [e]; exact h1.2 j) .inr⟩

theorem Shrunk.of_conns {c c' : Core} (h : c'.conns = c.conns) : Shrunk c c' :=
  ⟨by rw [h], fun j => .inl (by simp only [conn, h])⟩

theorem Shrunk.of_live {c c' : Core} (hs : Shrunk c c') {j : Nat}
    (hl : (c'.conn j).1 = .connecting ∨ (c'.conn j).1 = .connected) : c'.conn j = c.conn j := by
  rcases hs.2 j with h | h | h
  · exact h
  all_goals rw [h] at hl; rcases hl with hl | hl <;> cases hl

theorem shrunk_closeOn (c : Core) (i : Nat) : Shrunk c (c.closeOn i) :=
  ⟨len_closeOn c i, fun j => by rw [conn_closeOn]; split; exact .inr (.inl rfl); exact .inl rfl⟩

theorem shrunk_setPhase_closed (c : Core) (i : Nat) : Shrunk c (c.setPhase i .closed) :=
  ⟨len_setPhase c i _, fun j => by rw [conn_setPhase]; split; exact .inr (.inr rfl); exact .inl rfl⟩

theorem shrunk_abortPending (c : Core) : Shrunk c c.abortPending :=
  ⟨len_abortPending c, fun j => by rw [conn_abortPending]; split; exact .inr (.inr rfl); exact .inl rfl⟩

theorem Fresh.of_shrunk {c c' : Core} (h : Fresh c) (hs : Shrunk c c') : Fresh c' := fun j hj => by
  have e := hs.of_live (.inl hj)
  rw [e] at hj ⊢
  exact h j hj

theorem shrunk_closeConn (c : Core) : Shrunk c c.closeConn := by
  unfold closeConn; split
  · exact .refl c
  · exact shrunk_closeOn c _

theorem fresh_closeConn {c : Core} (h : Fresh c) : Fresh c.closeConn := h.of_shrunk (shrunk_closeConn c)

theorem fresh_abortPending {c : Core} (h : Fresh c) : Fresh c.abortPending := h.of_shrunk (shrunk_abortPending c)

theorem up_abortPending {c : Core} {k : Nat} (h : Up c k) : Up c.abortPending k :=
  ⟨by rw [len_abortPending]; exact h.1, by rw [conn_abortPending_of_ne (by rw [h.2]; simp)]; exact h.2⟩

theorem owed_abortPending {c : Core} (h : Owed c) : Owed c.abortPending := by
  obtain ⟨k, hk, hc⟩ := h
  exact ⟨k, by rw [len_abortPending]; exact hk, by rw [conn_abortPending_of_ne (by rw [hc]; simp)]; exact hc⟩

/-- BGPPeering.connect changes no connection: the new attempt is an entry like the default one, so that only the length
    (and `pending`) tell that it is there -/
theorem conn_connectTcp (c : Core) (j : Nat) : c.connectTcp.conn j = c.abortPending.conn j := by
  unfold connectTcp
  split
  · exact getD_append_default _ _ _
  · rfl

theorem fresh_connectTcp {c : Core} (h : Fresh c) : Fresh c.connectTcp := fun j hj => by
  rw [conn_connectTcp] at hj ⊢
  exact fresh_abortPending h j hj

@[simp] theorem closeOn_st (c : Core) (i : Nat) : (c.closeOn i).st = c.st := by unfold closeOn; split <;> rfl
@[simp] theorem closeOn_retry (c : Core) (i : Nat) : (c.closeOn i).retry = c.retry := by unfold closeOn; split <;> rfl
@[simp] theorem closeOn_idleHold (c : Core) (i : Nat) : (c.closeOn i).idleHold = c.idleHold := by unfold closeOn; split <;> rfl
@[simp] theorem closeOn_allow (c : Core) (i : Nat) : (c.closeOn i).allow = c.allow := by unfold closeOn; split <;> rfl
@[simp] theorem closeOn_proto (c : Core) (i : Nat) : (c.closeOn i).proto = c.proto := by unfold closeOn; split <;> rfl
@[simp] theorem closeOn_estab (c : Core) (i : Nat) : (c.closeOn i).estab = c.estab := by unfold closeOn; split <;> rfl
@[simp] theorem closeConn_st (c : Core) : c.closeConn.st = c.st := by unfold closeConn; split <;> simp
@[simp] theorem closeConn_retry (c : Core) : c.closeConn.retry = c.retry := by unfold closeConn; split <;> simp
@[simp] theorem closeConn_idleHold (c : Core) : c.closeConn.idleHold = c.idleHold := by unfold closeConn; split <;> simp
@[simp] theorem closeConn_allow (c : Core) : c.closeConn.allow = c.allow := by unfold closeConn; split <;> simp
@[simp] theorem closeConn_proto (c : Core) : c.closeConn.proto = c.proto := by unfold closeConn; split <;> simp
@[simp] theorem closeConn_estab (c : Core) : c.closeConn.estab = c.estab := by unfold closeConn; split <;> simp
theorem len_closeConn (c : Core) : c.closeConn.conns.length = c.conns.length := by
  unfold closeConn; split
  · rfl
  · exact len_closeOn _ _

theorem conn_closeConn (c : Core) (j : Nat) : c.closeConn.conn j = c.conn j ∨ c.closeConn.conn j = (.closing, true) := by
  unfold Core.closeConn
  split
  · exact .inl rfl
  · rw [Core.conn_closeOn]
    split
    · exact .inr rfl
    · exact .inl rfl

theorem Up.of_conns {c c' : Core} {i : Nat} (h : Up c i) (hc : c'.conns = c.conns) : Up c' i := by
  unfold Up conn at *; rw [hc]; exact h

theorem Owed.of_conns {c c' : Core} (h : Owed c) (hc : c'.conns = c.conns) : Owed c' := by
  unfold Owed conn at *; rw [hc]; exact h

theorem owed_closeOn {c : Core} (h : Owed c) (i : Nat) : Owed (c.closeOn i) := by
  obtain ⟨k, hk, hc⟩ := h
  refine ⟨k, by rw [len_closeOn]; exact hk, ?_⟩
  rw [conn_closeOn]
  split
  · rfl
  · exact hc

theorem owed_of_up_closeOn {c : Core} {i : Nat} (h : Up c i) : Owed (c.closeOn i) := by
  refine ⟨i, by rw [len_closeOn]; exact h.1, ?_⟩
  rw [conn_closeOn, if_pos ⟨rfl, h.1, Or.inl (by rw [h.2])⟩]

theorem owed_closeConn {c : Core} (h : Owed c) : Owed c.closeConn := by
  unfold closeConn; split
  · exact h
  · exact owed_closeOn h _

theorem up_closeOn_other {c : Core} {k : Nat} (h : Up c k) {i : Nat} (hne : i ≠ k) : Up (c.closeOn i) k := by
  refine ⟨by rw [len_closeOn]; exact h.1, ?_⟩
  rw [conn_closeOn, if_neg (fun hh => hne hh.1)]
  exact h.2

theorem up_setPhase_other {c : Core} {k : Nat} (h : Up c k) {j : Nat} (hne : j ≠ k) (p : Phase) : Up (c.setPhase j p) k := by
  refine ⟨by rw [len_setPhase]; exact h.1, ?_⟩
  rw [conn_setPhase, if_neg (fun hh => hne hh.1)]
  exact h.2

theorem owed_setPhase_other {c : Core} (h : Owed c) (j : Nat) (p : Phase)
    (hne : c.conn j ≠ (.closing, true)) : Owed (c.setPhase j p) := by
  obtain ⟨k, hk, hc⟩ := h
  have : j ≠ k := by intro e; subst e; exact hne hc
  refine ⟨k, by rw [len_setPhase]; exact hk, ?_⟩
  rw [conn_setPhase, if_neg (fun hh => this hh.1)]
  exact hc

theorem len_connectTcp_ge (c : Core) : c.conns.length ≤ c.connectTcp.conns.length := by
  unfold connectTcp; split <;> simp

theorem len_connectTcp_le (c : Core) : c.connectTcp.conns.length ≤ c.conns.length + 1 := by
  unfold connectTcp; split <;> simp

theorem up_connectTcp {c : Core} {k : Nat} (h : Up c k) : Up c.connectTcp k :=
  ⟨Nat.lt_of_lt_of_le h.1 (len_connectTcp_ge c), by rw [conn_connectTcp]; exact (up_abortPending h).2⟩

theorem owed_connectTcp {c : Core} (h : Owed c) : Owed c.connectTcp := by
  obtain ⟨k, hk, hc⟩ := h
  refine ⟨k, Nat.lt_of_lt_of_le hk (len_connectTcp_ge c), ?_⟩
  rw [conn_connectTcp, conn_abortPending_of_ne (by rw [hc]; simp)]; exact hc

@[simp] theorem connectTcp_st (c : Core) : c.connectTcp.st = c.st := by unfold connectTcp; split <;> simp
@[simp] theorem connectTcp_retry (c : Core) : c.connectTcp.retry = c.retry := by unfold connectTcp; split <;> simp
@[simp] theorem connectTcp_idleHold (c : Core) : c.connectTcp.idleHold = c.idleHold := by unfold connectTcp; split <;> simp
@[simp] theorem connectTcp_allow (c : Core) : c.connectTcp.allow = c.allow := by unfold connectTcp; split <;> simp
@[simp] theorem connectTcp_proto (c : Core) : c.connectTcp.proto = c.proto := by unfold connectTcp; split <;> simp
@[simp] theorem connectTcp_estab (c : Core) : c.connectTcp.estab = c.estab := by unfold connectTcp; split <;> simp

theorem Heal.of_idle_armed {c : Core} (hs : c.st = .idle) (hi : c.idleHold = true) (hf : Fresh c) : Heal c :=
  ⟨by simp [hs], by intro h; simp [InSess, hs] at h, by intro _ h; simp [hs] at h, fun _ _ => Or.inl hi, hf⟩

theorem Heal.of_idle_owed {c : Core} (hs : c.st = .idle) (ho : Owed c) (hf : Fresh c) : Heal c :=
  ⟨by simp [hs], by intro h; simp [InSess, hs] at h, by intro _ h; simp [hs] at h, fun _ _ => Or.inr ho, hf⟩

theorem Heal.of_idle_stopped {c : Core} (hs : c.st = .idle) (ha : c.allow = false) (hf : Fresh c) : Heal c :=
  ⟨by simp [hs], by intro h; simp [InSess, hs] at h, by intro _ h; simp [hs] at h, by intro h; simp [ha] at h, hf⟩

theorem Heal.of_connect_retry {c : Core} (hs : c.st = .connect) (hr : c.retry = true) (hf : Fresh c) : Heal c :=
  ⟨by simp [hs], by intro h; simp [InSess, hs] at h, fun _ _ => Or.inl hr, by intro _ h; simp [hs] at h, hf⟩

theorem heal_errorClose {c : Core} (hf : Fresh c) : Heal c.errorClose := by
  apply Heal.of_idle_armed
  · rfl
  · simp [errorClose, withSt, withTm]
  · unfold errorClose
    exact (fresh_closeConn (hf.of_conns (c' := c.withTm false true) rfl)).of_conns rfl

theorem Heal.of_sess {c c' : Core} (h : Heal c) (hs : InSess c.st) (hs' : InSess c'.st) (hp : c'.proto = c.proto)
    (he : c'.estab = c.estab) (hc : c'.conns = c.conns) : Heal c' := by
  obtain ⟨i, h1, h2, h3⟩ := h.sess hs
  refine ⟨?_, fun _ => ⟨i, hp.trans h1, he.trans h2, h3.of_conns hc⟩, ?_, ?_, h.fresh.of_conns hc⟩
  · rcases hs' with e | e | e <;> simp [e]
  · intro _ e; rcases hs' with e' | e' | e' <;> simp [e'] at e
  · intro _ e; rcases hs' with e' | e' | e' <;> simp [e'] at e

theorem Heal.of_same {c c' : Core} (h : Heal c) (hst : c'.st = c.st) (ha : c'.allow = c.allow) (hp : c'.proto = c.proto)
    (he : c'.estab = c.estab) (hc : c'.conns = c.conns)
    (hr : c.st = .connect → c'.retry = c.retry) (hi : c.st = .idle → c'.idleHold = c.idleHold) : Heal c' := by
  refine ⟨by rw [hst]; exact h.noActive, ?_, ?_, ?_, h.fresh.of_conns hc⟩
  · intro hs; rw [hst] at hs
    obtain ⟨i, h1, h2, h3⟩ := h.sess hs
    exact ⟨i, hp.trans h1, he.trans h2, h3.of_conns hc⟩
  · intro hal hs; rw [hst] at hs; rw [ha] at hal
    rcases h.conn hal hs with h1 | ⟨i, h1, h2⟩
    · exact Or.inl ((hr hs).trans h1)
    · exact Or.inr ⟨i, hp.trans h1, h2.of_conns hc⟩
  · intro hal hs; rw [hst] at hs; rw [ha] at hal
    rcases h.idle hal hs with h1 | h1
    · exact Or.inl ((hi hs).trans h1)
    · exact Or.inr (h1.of_conns hc)

theorem heal_frameOutcome {c : Core} (h : Heal c) : ∀ o ∈ c.frameOutcomes, Heal o := by
  intro o ho
  rcases frameOutcome_cases ho with rfl | rfl | ⟨hs, rfl⟩ | ⟨hs, rfl⟩ | ⟨hs, rfl⟩
  · exact h
  · exact heal_errorClose h.fresh
  · exact h.of_sess (Or.inl hs) (Or.inr (Or.inl rfl)) rfl rfl rfl
  · exact h.of_sess (Or.inr (Or.inl hs)) (Or.inr (Or.inr rfl)) rfl rfl rfl
  · -- NOTIFICATION "unsupported version": no error close, the tracked connection is closed and its loss is awaited
    obtain ⟨i, h1, _, h3⟩ := h.sess (hs.elim Or.inl fun e => Or.inr (Or.inl e))
    apply Heal.of_idle_owed rfl
    · have : (c.setRetry false).closeConn = (c.setRetry false).closeOn i := by
        unfold closeConn; simp only [setRetry, h1]
      apply Owed.of_conns (c := (c.setRetry false).closeOn i) _ (by rw [this]; rfl)
      exact owed_of_up_closeOn (h3.of_conns rfl)
    · exact (fresh_closeConn (h.fresh.of_conns (c' := c.setRetry false) rfl)).of_conns rfl

theorem heal_connectTcp {c : Core} (hs : c.st = .connect) (hr : c.retry = true) (hf : Fresh c) : Heal c.connectTcp :=
  .of_connect_retry ((connectTcp_st c).trans hs) ((connectTcp_retry c).trans hr) (fresh_connectTcp hf)

theorem heal_autoStart {c : Core} (h : Heal c) (b : Bool) : Heal (c.autoStart b) := by
  unfold autoStart
  split
  · rename_i hs
    split
    · exact Heal.of_idle_armed hs rfl (h.fresh.of_conns rfl)
    · split
      · exact heal_connectTcp rfl rfl (h.fresh.of_conns rfl)
      · exact h
  · exact h

theorem dropEstab_cases (c : Core) (p : Option Nat) :
    (c.dropEstab p).st = .idle ∨ (c.dropEstab p = c ∧ ∀ q, p = some q → c.estab ≠ some q) := by
  unfold dropEstab
  cases p with
  | none => exact Or.inr ⟨rfl, fun q h => by cases h⟩
  | some q =>
    simp only
    split
    · exact Or.inl rfl
    · rename_i h
      exact Or.inr ⟨rfl, fun q' hq => by cases hq; exact h⟩

theorem dropEstab_conns (c : Core) (p : Option Nat) : (c.dropEstab p).conns = c.conns := by
  unfold dropEstab
  cases p with
  | none => rfl
  | some q => simp only; split <;> rfl

/-- the tail of BGPPeering.connection_closed in Idle: the idle-hold timer is armed if automatic start is allowed -/
theorem heal_idle_restart {c : Core} (hs : c.st = .idle) (hf : Fresh c) :
    Heal (if c.allow = true then c.autoStart true else c) := by
  split
  · unfold autoStart
    rw [if_pos hs, if_pos rfl]
    exact .of_idle_armed hs rfl (hf.of_conns rfl)
  · rename_i ha
    exact .of_idle_stopped hs (by simpa using ha) hf

theorem heal_connectionClosed {c : Core} (p : Option Nat) (hf : Fresh c)
    (hne : c.st ≠ .idle → (∀ q, p = some q → c.estab ≠ some q) → Heal c) : Heal (c.connectionClosed p) := by
  unfold connectionClosed
  rcases dropEstab_cases c p with hs | ⟨he, hq⟩
  · exact heal_idle_restart hs (hf.of_conns (dropEstab_conns c p))
  · rw [he]
    by_cases hs : c.st = .idle
    · exact heal_idle_restart hs hf
    · split
      · exact heal_autoStart (hne hs hq) true
      · exact hne hs hq

theorem heal_connectionFailed {c : Core} (hna : c.st ≠ .active)
    (hpe : InSess c.st → ∃ i, c.proto = some i ∧ c.estab = some i) (hf : Fresh c) (hidle : c.st = .idle → Heal c) :
    Heal c.connectionFailed := by
  unfold connectionFailed
  cases hs : c.st <;> simp only
  · exact hidle hs
  · exact heal_connectionClosed _ ((fresh_closeConn (hf.of_conns (c' := c.setRetry false) rfl)).of_conns rfl)
      fun h => absurd rfl h
  · exact absurd hs hna
  · obtain ⟨i, h1, h2⟩ := hpe (Or.inl hs)
    -- estab_protocol is the tracked protocol: connection_closed drops it and the state becomes Idle
    exact heal_connectionClosed _ ((fresh_closeConn hf).of_conns rfl)
      fun _ hq => absurd ((closeConn_estab c).trans h2) (hq i h1)
  · exact heal_errorClose hf
  · exact heal_errorClose hf

theorem heal_setPhase_closed {c : Core} (h : Heal c) (j : Nat) (hj : c.st ≠ .idle → ¬ Up c j)
    (hne : c.st = .idle → c.conn j ≠ (.closing, true)) : Heal (c.setPhase j .closed) := by
  have hup : ∀ k, c.st ≠ .idle → Up c k → Up (c.setPhase j .closed) k :=
    fun k hs hk => up_setPhase_other hk (fun e : j = k => hj hs (e ▸ hk)) _
  refine ⟨h.noActive, fun hs => ?_, fun ha hs => ?_, fun ha hs => ?_, fresh_setPhase h.fresh j .closed (by simp)⟩
  · have hs' : InSess c.st := hs
    obtain ⟨i, h1, h2, h3⟩ := h.sess hs
    exact ⟨i, h1, h2, hup i (by rcases hs' with e | e | e <;> rw [e] <;> nofun) h3⟩
  · exact (h.conn ha hs).imp_right fun ⟨i, h1, h3⟩ => ⟨i, h1, hup i (by rw [show c.st = .connect from hs]; nofun) h3⟩
  · exact (h.idle ha hs).imp_right fun h1 => owed_setPhase_other h1 j _ (hne hs)

theorem connOk_up {c : Core} (i : Nat) (hl : i < c.conns.length) (hci : c.conn i = (.connecting, false)) (b : Bool) :
    (c.connOk i b).proto = some i ∧ Up (c.connOk i b) i := by
  have hup : Up (c.setPhase i .connected) i :=
    ⟨by rw [len_setPhase]; exact hl, by rw [conn_setPhase, if_pos ⟨rfl, hl⟩, hci]⟩
  cases b
  · exact ⟨rfl, hup.of_conns rfl⟩
  · exact ⟨rfl, hup.of_conns rfl⟩

theorem Heal.of_up {c : Core} {i : Nat} (hs : c.st = .connect ∨ InSess c.st) (hp : c.proto = some i) (he : c.estab = some i)
    (hu : Up c i) (hf : Fresh c) : Heal c :=
  ⟨by rcases hs with e | e | e | e <;> simp [e], fun _ => ⟨i, hp, he, hu⟩, fun _ _ => .inr ⟨i, hp, hu⟩,
    fun _ h => by rcases hs with e | e | e | e <;> simp [e] at h, hf⟩

theorem heal_stepOutcome {c : Core} (h : Heal c) (e : Ev) (hen : enabledC c e) : ∀ o ∈ c.stepOutcome e, Heal o := by
  refine stepOutcome_cases (heal_frameOutcome h) (heal_autoStart h false) ?start ?stop ?ok ?fail ?lost ?retry ?idleHold e hen
  case start =>
    unfold manualStart
    cases hs : c.st <;> simp only
    · exact heal_connectTcp rfl rfl (h.fresh.of_conns rfl)
    all_goals exact h
  case stop =>
    apply Heal.of_idle_stopped
    · simp [manualStop, withSt]
    · simp [manualStop, withSt, withAllow]
    · exact fresh_abortPending ((fresh_closeConn (h.fresh.of_conns (c' := c.withTm false false) rfl)).of_conns rfl)
  case ok =>
    intro i b hl hph
    obtain ⟨hp, hup⟩ := connOk_up i hl (Prod.ext hph (h.fresh i hph)) b
    have hfr : Fresh (c.setPhase i .connected) := fresh_setPhase h.fresh i .connected (by simp)
    cases b
    · exact .of_up (.inl rfl) hp rfl hup (hfr.of_conns rfl)
    · exact .of_up (.inr (.inl rfl)) hp rfl hup (hfr.of_conns rfl)
  case fail =>
    intro i hl hph
    have hc' : Heal (c.setPhase i .closed) :=
      heal_setPhase_closed h i (fun _ hu => by rw [hu.2] at hph; cases hph) (fun _ e => by rw [e] at hph; cases hph)
    unfold connFail
    split
    · have hc'' : Heal ((c.withPending none).setPhase i .closed) := hc'.of_same rfl rfl rfl rfl rfl (fun _ => rfl) (fun _ => rfl)
      apply heal_connectionFailed hc''.noActive
      · intro hs
        obtain ⟨k, h1, h2, _⟩ := hc''.sess hs
        exact ⟨k, h1, h2⟩
      · exact hc''.fresh
      · exact fun _ => hc''
    · exact hc'
  case lost =>
    intro i
    unfold connLost
    split
    · rename_i hd
      -- we had closed it ourselves: connection_closed(pro)
      exact heal_connectionClosed _ (fresh_setPhase h.fresh i .closed (by simp)) fun hs _ =>
        heal_setPhase_closed h i (fun _ hu => by rw [hu.2] at hd; cases hd) (fun e => absurd e hs)
    · rename_i hd
      -- the peer (or the network) closed it
      exact heal_connectionFailed (c := c.setPhase i .closed) h.noActive (fun hs => (h.sess hs).imp fun _ hk => ⟨hk.1, hk.2.1⟩)
        (fresh_setPhase h.fresh i .closed (by simp)) fun hs =>
        heal_setPhase_closed h i (fun e => absurd hs e) (fun _ e => by rw [e] at hd; exact hd rfl)
  case retry =>
    unfold fireRetry
    cases hs : c.st <;> simp only
    · exact h.of_same rfl rfl rfl rfl rfl (fun e => by rw [hs] at e; cases e) (fun _ => rfl)
    · exact heal_connectTcp ((closeConn_st _).trans hs) rfl
        ((fresh_closeConn (h.fresh.of_conns (c' := c.setRetry false) rfl)).of_conns rfl)
    · exact absurd hs h.noActive
    all_goals exact heal_errorClose (h.fresh.of_conns rfl)
  case idleHold =>
    unfold fireIdleHold
    split
    · rename_i hs
      unfold autoStart
      rw [if_pos (by simpa [setIdleHold] using hs)]
      simp only [Bool.false_eq_true, ↓reduceIte]
      split
      · exact heal_connectTcp rfl rfl (h.fresh.of_conns rfl)
      · rename_i ha
        exact Heal.of_idle_stopped hs (by simpa [setIdleHold] using ha) (h.fresh.of_conns rfl)
    · rename_i hs
      exact h.of_same rfl rfl rfl rfl rfl (fun _ => rfl) (fun e => absurd e hs)

theorem frameOutcome_insess {c o : Core} (ho : o ∈ c.frameOutcomes) (hs : InSess o.st) :
    o.conns = c.conns ∧ o.proto = c.proto := by
  rcases frameOutcome_cases ho with rfl | rfl | ⟨_, rfl⟩ | ⟨_, rfl⟩ | ⟨_, rfl⟩
  · exact ⟨rfl, rfl⟩
  · exact absurd hs (by simp [InSess, errorClose, withSt])
  · exact ⟨rfl, rfl⟩
  · exact ⟨rfl, rfl⟩
  · exact absurd hs (by simp [InSess, withSt])

end Core
end Yabgp
