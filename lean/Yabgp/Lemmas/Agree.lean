/-
  yabgp says some things several times over and the model follows it.  Here each such pair is shown to agree, once, in
  a module that both the round-trip files and the walker files can import.

  Octets of an `l`-bit prefix: case chains (`Mp.prefixOctetsV4`, `Mp.ceil8`, `Flowspec.pfxKeep`; for `prefixOctets` of
  Model/Update.lean see `prefixOctets_eq` in Lemmas/Basic.lean) next to the `(l + 7) / 8` of the decoder and the RFC side
  (`pfxOctets`, `Walker.ceil8`, Spec/RfcEncode.lean); each chain is `(l + 7) / 8` on the lengths it is used for.
-/
import Yabgp.Model.Mp.Common
import Yabgp.Model.Mp.Evpn
import Yabgp.Model.Mp.Flowspec

namespace Yabgp

theorem Mp.prefixOctetsV4_eq {len : Int} (h0 : 0 ≤ len) (h : len ≤ 32) :
    Mp.prefixOctetsV4 len = (len.toNat + 7) / 8 := by
  simp only [Mp.prefixOctetsV4, ite_eq_iff_imp]; omega

theorem Mp.ceil8_eq (l : Nat) : Mp.ceil8 l = (l + 7) / 8 := by
  simp only [Mp.ceil8, ite_eq_iff_imp]; omega

theorem Flowspec.pfxKeep_eq {l : Nat} (h : l ≤ 32) : Flowspec.pfxKeep l = (l + 7) / 8 := by
  simp only [Flowspec.pfxKeep, ite_eq_iff_imp]; omega

/-- `EVPN.construct` is the generic "encode each, concatenate" over `constructRoute` -/
theorem Evpn.constructRoutes_eq : Evpn.constructRoutes = Mp.encAll Evpn.constructRoute := by
  funext rs
  induction rs with
  | nil => rfl
  | cons r rs ih => simp only [Evpn.constructRoutes, Mp.encAll, ih]; rfl

end Yabgp
