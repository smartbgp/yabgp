/-
  IPv4 prefix lists (NLRI, withdrawn routes): the decoder inverts every encoding of a prefix in network form -
  the reference encoder of Spec/RfcEncode.lean, which may leave anything in the bits beyond the prefix length, and
  the agent's own encoder, which is the case that leaves zeros there.
  The Mathlib import makes `2 ^ k` in `PfxOk` / `RefPfxOk` the same term (`Monoid.npow` on ℕ) as in the MP-BGP, EVPN and
  flow specification files (Lemmas/MpRt.lean, Lemmas/EvfBytes.lean).
-/
import Mathlib.Algebra.Group.Nat.Defs
import Yabgp.Spec.RfcEncode
import Yabgp.Lemmas.Basic
import Yabgp.Lemmas.ListCodec

namespace Yabgp
open Spec

/-- a prefix in network form (no host bits), as the property takes them -/
def PfxOk (addpath : Bool) (p : Pfx) : Prop :=
  p.len ≤ 32 ∧ p.addr < 4294967296 ∧ p.addr % 2 ^ (32 - p.len) = 0 ∧
  (if addpath then ∃ pid, p.pathId = some pid ∧ pid < 4294967296 else p.pathId = none)

/-- a reference NLRI entry in network form with arbitrary trailing bits -/
def RefPfxOk (addpath : Bool) (p : RefPfx) : Prop :=
  p.len ≤ 32 ∧ p.addr < 4294967296 ∧ p.addr % 2 ^ (32 - p.len) = 0 ∧ p.junk < 2 ^ (32 - p.len) ∧
  (if addpath then ∃ pid, p.pathId = some pid ∧ pid < 4294967296 else p.pathId = none)

def Spec.RefPfx.toPfx (p : RefPfx) : Pfx := { addr := p.addr, len := p.len, pathId := p.pathId }

theorem maskLast_snoc (rem : Nat) (a : Bytes) (x : UInt8) :
    maskLast rem (a ++ [x]) = a ++ [u8 (x.toNat / 2 ^ (8 - rem) * 2 ^ (8 - rem))] := by
  induction a with
  | nil => rfl
  | cons y t ih => cases t <;> exact congrArg (y :: ·) ih

theorem beVal_maskLast (rem : Nat) {b : Bytes} (hb : b ≠ []) (hr : rem ≤ 8) :
    (maskLast rem b).length = b.length ∧
    beVal (maskLast rem b) = beVal b / 2 ^ (8 - rem) * 2 ^ (8 - rem) := by
  obtain ⟨a, x, rfl⟩ : ∃ a x, b = a ++ [x] := ⟨_, _, (List.dropLast_concat_getLast hb).symm⟩
  have hP : 256 = 2 ^ rem * 2 ^ (8 - rem) := by rw [← Nat.pow_add, show rem + (8 - rem) = 8 by omega]
  have hpos : 0 < 2 ^ (8 - rem) := Nat.pow_pos (by decide)
  have hx : x.toNat / 2 ^ (8 - rem) * 2 ^ (8 - rem) < 256 :=
    Nat.lt_of_le_of_lt (Nat.div_mul_le_self ..) x.toNat_lt
  rw [maskLast_snoc, beVal_snoc, beVal_snoc, u8_toNat hx]
  refine ⟨by simp, ?_⟩
  rw [hP, ← Nat.mul_assoc, Nat.add_comm _ x.toNat, Nat.add_mul_div_right _ _ hpos, Nat.add_mul, Nat.add_comm]

theorem addrOf_eq_beVal : ∀ {b : Bytes}, b.length ≤ 4 → addrOf b = beVal b * 256 ^ (4 - b.length)
  | [], _ | [_], _ | [_, _], _ | [_, _, _], _ | [_, _, _, _], _ => by
    simp only [addrOf, beVal, List.getD_cons_zero, List.getD_cons_succ, List.getD_nil, List.foldl_cons,
      List.foldl_nil, List.length_cons, List.length_nil, Nat.reduceAdd, Nat.reduceSub, Nat.reducePow,
      UInt8.toNat_zero]
    try omega

theorem pfxOctets_bits (len : Nat) :
    8 * pfxOctets len - len = if len % 8 > 0 then 8 - len % 8 else 0 := by
  unfold pfxOctets; split <;> omega

theorem pfxData_append {len : Nat} {d : Bytes} (rest : Bytes) (hd : d.length = pfxOctets len) :
    (pfxData len (d ++ rest)).length = d.length ∧
    beVal (pfxData len (d ++ rest)) =
      beVal d / 2 ^ (8 * pfxOctets len - len) * 2 ^ (8 * pfxOctets len - len) := by
  rw [pfxData, List.take_left' hd, pfxOctets_bits]
  split
  · have hne : d ≠ [] := by
      intro e; rw [e, pfxOctets] at hd; simp at hd; omega
    exact beVal_maskLast (len % 8) hne (by omega)
  · simp

theorem parseOnePrefix_take_be32 (pid : Option Nat) (len n : Nat) (rest : Bytes)
    (hl : len ≤ 32) (hn : n < 4294967296) :
    parseOnePrefix pid (u8 len :: ((be32 n).take (pfxOctets len) ++ rest)) =
      some ({ addr := n / 2 ^ (32 - len) * 2 ^ (32 - len), len := len, pathId := pid }, rest) := by
  have hk : pfxOctets len ≤ 4 := by unfold pfxOctets; omega
  have hd : ((beN 4 n).take (pfxOctets len)).length = pfxOctets len := by
    rw [List.length_take, beN_length]; omega
  obtain ⟨h1, h2⟩ := pfxData_append rest hd
  -- with k = pfxOctets len: the k octets sent have value n / 256^(4-k); masking clears 8k - len more bits; `addrOf`
  -- multiplies back by 256^(4-k); `clear_low_bits_octets` merges the two roundings into n / 2^(32-len) * 2^(32-len)
  rw [beVal_take_beN hk hn] at h2
  rw [be32_beN, parseOnePrefix, u8_toNat (by omega), if_neg (by omega), if_neg, List.drop_left' hd,
    addrOf_eq_beVal (by omega), h1, hd, h2, clear_low_bits_octets hk (by unfold pfxOctets; omega)]
  -- `prefix_data[-1]` exists whenever there are bits to clear
  rw [List.take_left' hd]
  intro h
  rw [h.2, pfxOctets] at hd; simp at hd; omega

theorem parseOnePrefix_ref (pid : Option Nat) (addr len junk : Nat) (rest : Bytes)
    (hl : len ≤ 32) (ha : addr < 4294967296) (hn : addr % 2 ^ (32 - len) = 0) (hj : junk < 2 ^ (32 - len)) :
    parseOnePrefix pid ([u8 len] ++ (be32 (addr + junk)).take ((len + 7) / 8) ++ rest) =
      some ({ addr := addr, len := len, pathId := pid }, rest) := by
  have hlt : addr + junk < 2 ^ 32 := add_lt_of_net (Nat.pow_dvd_pow 2 (Nat.sub_le 32 len)) hn hj ha
  have := parseOnePrefix_take_be32 pid len (addr + junk) rest hl hlt
  rwa [div_mul_of_net hn hj] at this

theorem stepPrefix_ref (addpath : Bool) (p : RefPfx) (rest : Bytes) (hok : RefPfxOk addpath p) :
    stepPrefix addpath (refPfx p ++ rest) = some (p.toPfx, rest) := by
  obtain ⟨addr, len, junk, pathId⟩ := p
  obtain ⟨hl, ha, hn, hj, hp⟩ := hok
  have hb := parseOnePrefix_ref pathId addr len junk rest hl ha hn hj
  cases addpath
  · obtain rfl : pathId = none := by simpa using hp
    simpa [stepPrefix, refPfx, RefPfx.toPfx] using hb
  · obtain ⟨pid, rfl, hpid⟩ : ∃ pid, pathId = some pid ∧ pid < 4294967296 := by simpa using hp
    simpa [stepPrefix, refPfx, RefPfx.toPfx, rd32_be32 hpid] using hb

theorem refPfx_nonempty (p : RefPfx) : refPfx p ≠ [] := by
  unfold refPfx
  cases p.pathId <;> simp [be32]

theorem parsePrefixList_nil (addpath : Bool) : parsePrefixList addpath [] = some [] := by
  rw [parsePrefixList]

theorem parsePrefixList_ref (addpath : Bool) (ps : List RefPfx) (rest : Bytes)
    (hok : ∀ p ∈ ps, RefPfxOk addpath p) :
    parsePrefixList addpath (ps.flatMap refPfx ++ rest) =
      (parsePrefixList addpath rest).map (ps.map RefPfx.toPfx ++ ·) := by
  refine decode_flatMap (parsePrefixList addpath) refPfx RefPfx.toPfx ps (fun p hp r => ?_) rest
  have hstep := stepPrefix_ref addpath p r (hok p hp)
  obtain ⟨x, xs, hx⟩ := List.exists_cons_of_ne_nil (refPfx_nonempty p)
  rw [hx, List.cons_append] at hstep ⊢
  rw [parsePrefixList_cons, hstep]
  simp only
  cases parsePrefixList addpath r <;> rfl

theorem parsePrefixList_ref_all (addpath : Bool) (ps : List RefPfx) (hok : ∀ p ∈ ps, RefPfxOk addpath p) :
    parsePrefixList addpath (ps.flatMap refPfx) = some (ps.map RefPfx.toPfx) := by
  have := parsePrefixList_ref addpath ps [] hok
  simpa [parsePrefixList_nil] using this

/-- the reference entry `construct_prefix_v4` writes for `p` -/
def Pfx.toRef (p : Pfx) : RefPfx := { addr := p.addr, len := p.len, pathId := p.pathId }

theorem Pfx.toRef_toPfx (ps : List Pfx) : (ps.map Pfx.toRef).map RefPfx.toPfx = ps := by
  rw [List.map_map]; exact List.map_id ps

theorem PfxOk.toRef {addpath : Bool} {p : Pfx} (h : PfxOk addpath p) : RefPfxOk addpath p.toRef :=
  ⟨h.1, h.2.1, h.2.2.1, Nat.pow_pos (by decide), h.2.2.2⟩

theorem constructPrefix_ref {addpath : Bool} {p : Pfx} (h : PfxOk addpath p) :
    constructPrefix addpath p = some (refPfx p.toRef) := by
  obtain ⟨addr, len, pathId⟩ := p
  obtain ⟨hl, ha, -, hp⟩ := h
  simp only at hl ha hp
  have hk := prefixOctets_eq hl
  simp only [constructPrefix, refPfx, Pfx.toRef, show ¬ (len > 32 ∨ ¬ addr < 4294967296) by omega, ↓reduceIte,
    hk, be8, Nat.add_zero, List.append_assoc]
  cases addpath
  · rw [if_neg (by decide)] at hp; subst hp; rfl
  · obtain ⟨pid, rfl, hpid⟩ := hp
    simp [hpid]

theorem constructPrefixV4_ref {addpath : Bool} {ps : List Pfx} (h : ∀ p ∈ ps, PfxOk addpath p) :
    constructPrefixV4 addpath ps = some ((ps.map Pfx.toRef).flatMap refPfx) := by
  induction ps with
  | nil => rfl
  | cons p r ih =>
    simp [constructPrefixV4, constructPrefix_ref (h p (by simp)), ih (fun q hq => h q (by simp [hq]))]

theorem parsePrefixList_enc (addpath : Bool) (ps : List Pfx) (w rest : Bytes)
    (hok : ∀ p ∈ ps, PfxOk addpath p) (hc : constructPrefixV4 addpath ps = some w) :
    parsePrefixList addpath (w ++ rest) = (parsePrefixList addpath rest).map (ps ++ ·) := by
  obtain rfl := Option.some.inj ((constructPrefixV4_ref hok).symm.trans hc)
  rw [parsePrefixList_ref addpath _ rest (by simpa using fun p hp => (hok p hp).toRef), Pfx.toRef_toPfx]

theorem parsePrefixList_enc_all (addpath : Bool) (ps : List Pfx) (w : Bytes)
    (hok : ∀ p ∈ ps, PfxOk addpath p) (hc : constructPrefixV4 addpath ps = some w) :
    parsePrefixList addpath w = some ps := by
  have := parsePrefixList_enc addpath ps w [] hok hc
  simpa [parsePrefixList_nil] using this

end Yabgp
