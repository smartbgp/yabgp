/-
  What it takes for a relation `R` between the state before and after to hold across every action of the model.
  Every action is a composition of a few primitive updates, so a reflexive and transitive `R` holds across an action
  as soon as it holds across the primitives the action is made of: this is proved here once, for an arbitrary `R`, in
  levels that follow the model (`Closes`: the close helpers and the reaction to a NOTIFICATION; `Sends`: what writes
  to the tracked connection; `Recvs`, `Opens`: the receive path; `Events`: connection management and the operator's
  start; `Steps`: every event but `connOk`, which sets `FSM.protocol` before it writes; `Runs`: `connOk` too).  A
  relation enters by proving the primitives, which is a line each.

  Three primitives are taken with the arguments the model gives them, so that a relation may rely on these: the
  idle-hold timer is kept, stopped or armed with `idleDeadline` (`Closes.tm`); a connector is never put back to
  `connecting` (`closing`, `Events.closed`, `Runs.connected`); the clock moves forward (`Steps.advance`).
-/
import Yabgp.Lemmas.SessBasic
import Yabgp.Lemmas.Dispatch

namespace Yabgp
namespace Sess

/-- what the receive path itself emits: the reports to the application and the "unmodelled UPDATE" marker -/
def isNote : Out → Bool
  | .hOpen .. | .hKeepalive .. | .hNotification .. | .hUpdate .. | .hUpdateError .. | .hRouteRefresh .. | .unmodelled => true
  | _ => false

/-- what connection management and the operator commands emit -/
def isCtl : Out → Bool
  | .connect _ | .hConnLost _ | .hConnFailed | .retStart _ | .retStop => true
  | _ => false

structure Closes (R : Sess → Sess → Prop) : Prop where
  refl : ∀ s, R s s
  trans : ∀ {a b c}, R a b → R b c → R a c
  tm : ∀ s v, v.idleHold = s.tm.idleHold ∨ v.idleHold = none ∨ v.idleHold = some s.idleDeadline → R s (s.withTm v)
  withSt : ∀ s v, R s (s.withSt v)
  withRetryCounter : ∀ s v, R s (s.withRetryCounter v)
  established : ∀ s, R s (s.emit .hEstablished)
  setDisconnected : ∀ s i, R s (s.setDisconnected i)
  /-- `closeConnection` on an open connection; one primitive, because a relation may admit a change of phase only
      together with `disconnected` being set -/
  closing : ∀ s i, R s ((s.setPhase i .closing).setDisconnected i)
  lose : ∀ s i, R s (s.emit (.lose i))

namespace Closes
variable {R : Sess → Sess → Prop} (T : Closes R)
include T

theorem setRetry (s : Sess) (v : Option Nat) : R s (s.setRetry v) := T.tm s _ (.inl rfl)
theorem setHold (s : Sess) (v : Option Nat) : R s (s.setHold v) := T.tm s _ (.inl rfl)
theorem setKeepalive (s : Sess) (v : Option Nat) : R s (s.setKeepalive v) := T.tm s _ (.inl rfl)

theorem idleStop (s : Sess) (r h k : Option Nat) : R s (s.withTm { retry := r, hold := h, keepalive := k }) :=
  T.tm s _ (.inr (.inl rfl))
theorem idleArm (s : Sess) (r h k : Option Nat) :
    R s (s.withTm { retry := r, hold := h, keepalive := k, idleHold := some s.idleDeadline }) :=
  T.tm s _ (.inr (.inr rfl))

theorem setSt (s : Sess) (v : St) : R s (s.setSt v) := by
  unfold Sess.setSt
  split
  · exact T.trans (T.established s) (T.withSt _ v)
  · exact T.withSt s v

theorem closeOn (s : Sess) (i : Nat) : R s (s.closeOn i) := by
  unfold Sess.closeOn
  split
  · exact T.trans (T.closing s i) (T.lose _ i)
  · split
    · exact T.setDisconnected s i
    · exact T.refl s

theorem closeConn (s : Sess) : R s s.closeConn := by
  unfold Sess.closeConn
  split
  · exact T.refl s
  · exact T.trans (T.closeOn s _) (T.withRetryCounter _ 0)

theorem errorClose (s : Sess) : R s s.errorClose :=
  T.trans (T.idleArm s _ _ _) (T.trans (T.closeConn _) (T.trans (T.withRetryCounter _ _) (T.setSt _ .idle)))

theorem restartHold (s : Sess) : R s s.restartHold := by
  unfold Sess.restartHold
  split
  · exact T.setHold s _
  · exact T.refl s

theorem fsmNotificationReceived (s : Sess) (e sub : Nat) : R s (s.fsmNotificationReceived e sub) := by
  have stop : R s (((((s.setRetry none).setHold none).setKeepalive none).closeConn).setSt .idle) :=
    T.trans (T.setRetry s _) (T.trans (T.setHold _ _) (T.trans (T.setKeepalive _ _) (T.trans (T.closeConn _) (T.setSt _ _))))
  unfold Sess.fsmNotificationReceived
  split
  · split
    · exact stop
    · exact stop
    · exact T.errorClose s
    · exact T.errorClose s
    · exact T.errorClose s
    · exact T.refl s
  · split
    · exact T.errorClose s
    · exact T.refl s

end Closes

/-- the send helpers write to the connection the state machine tracks, or record an escape -/
structure Sends (R : Sess → Sess → Prop) : Prop extends Closes R where
  bumpSent : ∀ s i g, R s (s.bumpSent i g)
  write : ∀ s i b, s.proto = some i → R s (s.emit (.write i b))
  escaped : ∀ s, R s (s.emit .escaped)

namespace Sends
variable {R : Sess → Sess → Prop} (T : Sends R)
include T

theorem writeOn (s : Sess) (i : Nat) (b : Bytes) (h : s.proto = some i) : R s (s.writeOn i b) := by
  unfold Sess.writeOn
  split
  · exact T.write s i b h
  · exact T.refl s

theorem sendNotification (s : Sess) (e sub : Nat) (d : Bytes) : R s (s.sendNotification e sub d) := by
  unfold Sess.sendNotification
  split
  · exact T.escaped s
  · rename_i i hi
    split
    · exact T.trans (T.bumpSent s i _) (T.writeOn _ i _ hi)
    · exact T.trans (T.bumpSent s i _) (T.escaped _)

theorem sendKeepalive (s : Sess) : R s s.sendKeepalive := by
  unfold Sess.sendKeepalive
  split
  · exact T.escaped s
  · rename_i i hi
    exact T.trans (T.bumpSent s i _) (T.writeOn _ i _ hi)

/-- NOTIFICATION, then `_error_close`: `headerError`, `openMessageError` and the FSM-error reaction are this -/
theorem notifyClose (s : Sess) (e sub : Nat) (d : Bytes) : R s ((s.sendNotification e sub d).errorClose) :=
  T.trans (T.sendNotification s e sub d) (T.errorClose _)

theorem headerError (s : Sess) (sub : Nat) (d : Bytes) : R s (s.headerError sub d) := T.notifyClose s _ sub d
theorem openMessageError (s : Sess) (sub : Nat) : R s (s.openMessageError sub) := T.notifyClose s _ sub []

theorem fsmOpenReceived (s : Sess) : R s s.fsmOpenReceived := by
  have ok : ∀ k h, R s (((((s.setRetry none).sendKeepalive).setKeepalive k).setHold h).setSt .openConfirm) := fun _ _ =>
    T.trans (T.setRetry s _) (T.trans (T.sendKeepalive _) (T.trans (T.setKeepalive _ _) (T.trans (T.setHold _ _) (T.setSt _ _))))
  unfold Sess.fsmOpenReceived
  split
  · exact T.errorClose s
  · exact T.errorClose s
  · split
    · exact ok _ _
    · exact ok _ _
  · exact T.notifyClose s _ _ _
  · exact T.notifyClose s _ _ _
  · exact T.refl s

theorem fsmKeepaliveReceived (s : Sess) : R s s.fsmKeepaliveReceived := by
  unfold Sess.fsmKeepaliveReceived
  split
  · exact T.trans (T.restartHold s) (T.setSt _ _)
  · exact T.restartHold s
  · exact T.errorClose s
  · exact T.errorClose s
  · exact T.notifyClose s _ _ _
  · exact T.refl s

theorem fsmUpdateReceived (s : Sess) : R s s.fsmUpdateReceived := by
  unfold Sess.fsmUpdateReceived
  split
  · exact T.restartHold s
  · exact T.errorClose s
  · exact T.errorClose s
  · exact T.notifyClose s _ _ _
  · exact T.notifyClose s _ _ _
  · exact T.refl s

end Sends

structure Recvs (R : Sess → Sess → Prop) : Prop extends Sends R where
  bumpRecv : ∀ s i g, R s (s.bumpRecv i g)
  note : ∀ s o, isNote o = true → R s (s.emit o)

namespace Recvs
variable {R : Sess → Sess → Prop} (T : Recvs R)
include T

theorem got (s : Sess) (i : Nat) (g : Stats → Stats) (o : Out) (h : isNote o = true) : R s ((s.bumpRecv i g).emit o) :=
  T.trans (T.bumpRecv s i g) (T.note _ o h)

/-- every message type; what an OPEN does is left to the caller (it is the one message that records capabilities) -/
theorem dispatch (U : Bool → Bytes → UpdClass) (s : Sess) (i ty : Nat) (body : Bytes)
    (opn : ty = 1 → R s (s.openReceived i body).1) : R s (dispatch U s i ty body).1 :=
  dispatch_elim (P := fun r => R s r.1) U s i ty body opn
    (fun _ => T.bumpRecv s i _)
    (fun _ => T.got s i _ _ rfl)
    (fun _ => T.trans (T.got s i _ _ rfl) (T.fsmUpdateReceived _))
    (fun _ => T.trans (T.got s i _ _ rfl) (T.fsmUpdateReceived _))
    (fun _ _ => T.refl s)
    (fun _ _ _ _ _ => T.trans (T.got s i _ _ rfl) (T.fsmNotificationReceived _ _ _))
    (fun _ => T.trans (T.got s i _ _ rfl) (T.fsmKeepaliveReceived _))
    (fun _ => T.trans (T.got s i _ _ rfl) (T.headerError _ _ _))
    (fun _ => T.bumpRecv s i _)
    (fun _ _ _ _ => T.got s i _ _ rfl)
    (fun _ _ _ _ _ => T.headerError s _ _)

end Recvs

structure Opens (R : Sess → Sess → Prop) : Prop extends Recvs R where
  withRemote : ∀ s v, R s (s.withRemote v)
  setAsn4 : ∀ s i, R s (s.setAsn4 i)
  withHoldTime : ∀ s v, R s (s.withHoldTime v)

namespace Opens
variable {R : Sess → Sess → Prop} (T : Opens R)
include T

theorem openAccepted (s : Sess) (i : Nat) (m : OpenMsg) : R s (s.openAccepted i m).1 := by
  have caps : ∀ t, t = (s.withRemote m.caps).setAsn4 i ∨ t = s.withRemote m.caps → R s t := by
    rintro t (rfl | rfl)
    · exact T.trans (T.withRemote s _) (T.setAsn4 _ i)
    · exact T.withRemote s _
  exact openAccepted_elim (P := fun r => R s r.1) s i m
    (fun t ht => T.trans (caps t ht) (T.openMessageError _ _))
    (fun t ht => T.trans (caps t ht) (T.trans (T.withHoldTime _ _) (T.trans (T.fsmOpenReceived _) (T.note _ _ rfl))))

theorem openReceived (s : Sess) (i : Nat) (body : Bytes) : R s (s.openReceived i body).1 :=
  openReceived_cases (P := fun r => R s r.1)
    (fun _ => T.trans (T.bumpRecv s i _) (T.headerError _ _ _))
    (fun _ => T.trans (T.bumpRecv s i _) (T.openMessageError _ _))
    (T.bumpRecv s i _)
    (fun m => T.trans (T.bumpRecv s i _) (T.openAccepted _ i m))

theorem dispatch (U : Bool → Bytes → UpdClass) (s : Sess) (i ty : Nat) (body : Bytes) : R s (dispatch U s i ty body).1 :=
  T.toRecvs.dispatch U s i ty body fun _ => T.openReceived s i body

theorem parseBuffer (U : Bool → Bytes → UpdClass) (s : Sess) (i : Nat) (buf : Bytes) : R s (parseBuffer U s i buf).1 :=
  parseBuffer_cases (P := fun r => R s r.1) (T.refl s) (T.headerError s _ _) (fun _ => T.headerError s _ _)
    (fun _ _ _ => T.dispatch U s i _ _)

theorem drain (U : Bool → Bytes → UpdClass) (i : Nat) : ∀ (f : Nat) (s : Sess) (buf : Bytes), R s (drain U f s i buf).1 := by
  intro f
  induction f with
  | zero => intro s buf; exact T.refl s
  | succ f ih =>
    intro s buf
    simp only [Sess.drain]
    cases (Sess.parseBuffer U s i buf).2 with
    | none => exact T.parseBuffer U s i buf
    | some rest => exact T.trans (T.parseBuffer U s i buf) (ih _ rest)

end Opens

structure Events (R : Sess → Sess → Prop) : Prop extends Closes R where
  withAllow : ∀ s v, R s (s.withAllow v)
  withEstab : ∀ s v, R s (s.withEstab v)
  withPending : ∀ s v, R s (s.withPending v)
  closed : ∀ s i, R s (s.setPhase i .closed)
  addConn : ∀ s, R s (s.withConns (s.conns ++ [({} : Conn)]))
  ctl : ∀ s o, isCtl o = true → R s (s.emit o)

namespace Events
variable {R : Sess → Sess → Prop} (T : Events R)
include T

theorem abortPending (s : Sess) : R s s.abortPending := by
  unfold Sess.abortPending
  split
  · exact T.refl s
  · split
    · exact T.trans (T.withPending s _) (T.closed _ _)
    · exact T.withPending s _

theorem connectTcp (s : Sess) : R s s.connectTcp := by
  unfold Sess.connectTcp
  split
  · exact T.trans (T.abortPending s) (T.trans (T.addConn _) (T.trans (T.ctl _ _ rfl) (T.withPending _ _)))
  · exact T.abortPending s

theorem autoStart (s : Sess) (b : Bool) : R s (s.autoStart b) := by
  unfold Sess.autoStart
  split
  · split
    · exact T.idleArm s _ _ _
    · split
      · exact T.trans (T.withRetryCounter s _) (T.trans (T.setRetry _ _) (T.trans (T.setSt _ _) (T.connectTcp _)))
      · exact T.refl s
  · exact T.refl s

theorem dropEstab (s : Sess) (p : Option Nat) : R s (s.dropEstab p) := by
  unfold Sess.dropEstab
  split
  · split
    · exact T.trans (T.withEstab s _) (T.setSt _ _)
    · exact T.refl s
  · exact T.refl s

theorem connectionClosed (s : Sess) (p : Option Nat) : R s (s.connectionClosed p) := by
  unfold Sess.connectionClosed
  split
  · exact T.trans (T.dropEstab s p) (T.autoStart _ _)
  · exact T.dropEstab s p

theorem connectionFailed (s : Sess) : R s s.connectionFailed := by
  unfold Sess.connectionFailed
  split
  · exact T.trans (T.setRetry s _) (T.trans (T.closeConn _) (T.trans (T.setSt _ _) (T.connectionClosed _ _)))
  · exact T.trans (T.setRetry s _) (T.setSt _ _)
  · exact T.trans (T.closeConn s) (T.trans (T.setRetry _ _) (T.trans (T.setHold _ _) (T.trans (T.setSt _ _)
      (T.connectionClosed _ _))))
  · exact T.errorClose s
  · exact T.errorClose s
  · exact T.refl s

theorem manualStart (s : Sess) : R s s.manualStart := by
  unfold Sess.manualStart
  split
  · exact T.ctl s _ rfl
  · exact T.trans (T.withAllow s _) (T.trans (T.setRetry _ _) (T.trans (T.setSt _ _) (T.trans (T.connectTcp _)
      (T.ctl _ _ rfl))))
  · exact T.ctl s _ rfl

/-- `manualStop` after the NOTIFICATION it may send -/
theorem stopTail (s : Sess) :
    R s (((((((s.withTm {}).closeConn).withRetryCounter 0).withAllow false).setSt .idle).abortPending).emit .retStop) :=
  T.trans (T.idleStop s _ _ _) (T.trans (T.closeConn _) (T.trans (T.withRetryCounter _ _) (T.trans (T.withAllow _ _)
    (T.trans (T.setSt _ _) (T.trans (T.abortPending _) (T.ctl _ _ rfl))))))

theorem connFail (s : Sess) (i : Nat) : R s (s.connFail i) := by
  unfold Sess.connFail
  split
  · exact T.trans (T.withPending s _) (T.trans (T.closed _ _) (T.trans (T.ctl _ _ rfl) (T.connectionFailed _)))
  · exact T.closed s _

theorem connLost (s : Sess) (i : Nat) : R s (s.connLost i) := by
  unfold Sess.connLost
  split
  · exact T.trans (T.closed s _) (T.trans (T.ctl _ _ rfl) (T.connectionClosed _ _))
  · exact T.trans (T.closed s _) (T.trans (T.ctl _ _ rfl) (T.connectionFailed _))

theorem fireIdleHold (s : Sess) : R s s.fireIdleHold := by
  unfold Sess.fireIdleHold
  split
  · exact T.trans (T.idleStop s _ _ _) (T.autoStart _ _)
  · exact T.idleStop s _ _ _

end Events

structure Steps (R : Sess → Sess → Prop) : Prop extends Opens R, Events R where
  advance : ∀ s dt, R s (s.withNow (s.now + dt))

namespace Steps
variable {R : Sess → Sess → Prop} (T : Steps R)
include T

theorem manualStop (s : Sess) : R s s.manualStop := by
  unfold Sess.manualStop
  split
  · exact T.trans (T.sendNotification s _ _ _) (T.stopTail _)
  · exact T.stopTail s

theorem fireRetry (s : Sess) : R s s.fireRetry := by
  have again : R s ((((s.setRetry none).closeConn).setRetry (some s.retryDeadline)).connectTcp) :=
    T.trans (T.setRetry s _) (T.trans (T.closeConn _) (T.trans (T.setRetry _ _) (T.connectTcp _)))
  unfold Sess.fireRetry
  split
  · exact again
  · exact again
  · exact T.setRetry s _
  · exact T.trans (T.setRetry s _) (T.notifyClose _ _ _ _)

theorem fireHold (s : Sess) : R s s.fireHold := by
  have expired : R s (((((s.setHold none).sendNotification C.errHold 0 []).setRetry none).errorClose).setSt .idle) :=
    T.trans (T.setHold s _) (T.trans (T.sendNotification _ _ _ _) (T.trans (T.setRetry _ _) (T.trans (T.errorClose _)
      (T.setSt _ _))))
  unfold Sess.fireHold
  split
  · exact expired
  · exact expired
  · exact expired
  · exact T.trans (T.setHold s _) (T.errorClose _)
  · exact T.trans (T.setHold s _) (T.errorClose _)
  · exact T.setHold s _

theorem fireKeepalive (s : Sess) : R s s.fireKeepalive := by
  have sent : R s ((s.setKeepalive none).sendKeepalive) := T.trans (T.setKeepalive s _) (T.sendKeepalive _)
  have beat : R s (if s.holdTime > 0 then ((s.setKeepalive none).sendKeepalive).setKeepalive (some (s.now + s.kaTicks))
      else (s.setKeepalive none).sendKeepalive) := by
    split
    · exact T.trans sent (T.setKeepalive _ _)
    · exact sent
  unfold Sess.fireKeepalive
  split
  · exact beat
  · exact beat
  · exact T.trans (T.setKeepalive s _) (T.errorClose _)
  · exact T.trans (T.setKeepalive s _) (T.errorClose _)
  · exact T.setKeepalive s _

theorem step (U : Bool → Bytes → UpdClass) (w : World) (e : Ev) (h : ∀ c, e ≠ .connOk c) :
    R (w.sess.withOuts []) (step U w e).sess := by
  cases e with
  | boot => exact T.autoStart _ _
  | manualStart => exact T.manualStart _
  | manualStop => exact T.manualStop _
  | connOk c => exact absurd rfl (h c)
  | connFail c => exact T.connFail _ c
  | chunk c d => exact T.drain U c _ _ _
  | lost c => exact T.connLost _ c
  | advance dt => exact T.advance _ dt
  | fire t =>
    cases t with
    | retry => exact T.fireRetry _
    | hold => exact T.fireHold _
    | keepalive => exact T.fireKeepalive _
    | idleHold => exact T.fireIdleHold _

end Steps

/-- what a connection coming up does besides: `FSM.protocol` is set, the BGP identifier is chosen, our OPEN goes out with
    the negotiated capabilities; and every event starts with the outputs of the previous one cleared -/
structure Runs (R : Sess → Sess → Prop) : Prop extends Steps R where
  clear : ∀ s, R s (s.withOuts [])
  connected : ∀ s i, R s (s.setPhase i .connected)
  withProto : ∀ s v, R s (s.withProto v)
  /-- BGPPeering.buildProtocol: the identifier is chosen once, from the configuration; `s` is the state in which the
      event arrived, where the model reads both -/
  bgpId : ∀ s t, R s t → R s (t.withBgpId (some (s.bgpId.getD s.cfg.localId)))
  negotiate : ∀ s, R s (s.withLocalCaps (negotiateCaps s.localCaps s.remote))
  sentOpen : ∀ s i a h b, R s (s.emit (.hSendOpen i a h b))

namespace Runs
variable {R : Sess → Sess → Prop} (T : Runs R)
include T

theorem sendOpen (s : Sess) : R s s.sendOpen.1 := by
  unfold Sess.sendOpen
  split
  · exact T.refl s
  · rename_i i hi
    split
    · exact T.negotiate s
    · exact T.trans (T.negotiate s) (T.trans (T.writeOn _ i _ hi) (T.trans (T.bumpSent _ i _) (T.sentOpen _ _ _ _ _)))

theorem connectionMade (s : Sess) : R s s.connectionMade := by
  have sent : R s ((s.setRetry none).setIdleHold none).sendOpen.1 :=
    T.trans (T.setRetry s _) (T.trans (T.idleStop _ _ _ _) (T.sendOpen _))
  unfold Sess.connectionMade
  split
  · exact T.trans sent (T.trans (T.setHold _ _) (T.setSt _ _))
  · exact sent

theorem connOk (s : Sess) (i : Nat) : R s (s.connOk i) :=
  T.trans (T.bgpId s _ (T.trans (T.connected s i) (T.trans (T.withProto _ _) (T.trans (T.setSt _ _) (T.withEstab _ _)))))
    (T.connectionMade _)

theorem step (U : Bool → Bytes → UpdClass) (w : World) (e : Ev) : R w.sess (step U w e).sess := by
  refine T.trans (T.clear w.sess) ?_
  cases e with
  | connOk c => exact T.connOk _ c
  | _ => exact T.toSteps.step U w _ nofun

end Runs

end Sess
end Yabgp
