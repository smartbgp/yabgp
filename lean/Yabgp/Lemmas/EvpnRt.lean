/-
  Round trips and compositionality of the EVPN NLRI (Model/Mp/Evpn.lean).
-/
import Yabgp.Model.Mp.Evpn
import Yabgp.Lemmas.EvfBytes
import Yabgp.Lemmas.ListCodec
import Yabgp.Lemmas.Agree

namespace Yabgp
open Yabgp.Evpn

theorem hexInt_beN {k v : Nat} (hk : 0 < k) (h : v < 256 ^ k) : hexInt (beN k v) = some v := by
  unfold hexInt
  split
  · rename_i hh; exact absurd hh (beN_ne_nil hk)
  · rw [beVal_beN_of_lt h]

/-- RD types 0, 1, 2 with every field inside its width; the text `'a:b'` is type 0 for a ≤ 65535, else type 2 -/
def RdOk : Rd → Prop
  | .asn a b => (a ≤ 65535 ∧ b < 4294967296) ∨ (65535 < a ∧ a < 4294967296 ∧ b < 65536)
  | .ip i n => i < 4294967296 ∧ n < 65536
  | .raw _ => False

instance : DecidablePred RdOk := fun rd => by cases rd <;> unfold RdOk <;> infer_instance

/-- ESI types 0..5 with every field inside its width (type 0: 9 octets, type 3 local discriminator: 3 octets) -/
def EsiOk : Esi → Prop
  | .t0 v => v < 2 ^ 72
  | .t1 m k => m < 2 ^ 48 ∧ k < 65536
  | .t2 m k => m < 2 ^ 48 ∧ k < 65536
  | .t3 m ld => m < 2 ^ 48 ∧ ld < 16777216
  | .t4 a ld => a < 4294967296 ∧ ld < 4294967296
  | .t5 a ld => a < 4294967296 ∧ ld < 4294967296
  | .other _ => False

instance : DecidablePred EsiOk := fun e => by cases e <;> unfold EsiOk <;> infer_instance

def IpOk (ip : Ip) : Prop := if ip.v6 then ip.val < 2 ^ 128 else ip.val < 2 ^ 32

instance : DecidablePred IpOk := fun ip => by unfold IpOk; infer_instance

def OptIpOk : Option Ip → Prop
  | none => True
  | some ip => IpOk ip

instance : DecidablePred OptIpOk := fun ip => by cases ip <;> unfold OptIpOk <;> infer_instance

def LabelsOk (ls : List Nat) : Prop := ∀ l ∈ ls, l < 1048576

instance : DecidablePred LabelsOk := fun ls => by unfold LabelsOk; infer_instance

theorem unpackHI_app {a b : Nat} (ha : a < 65536) (hb : b < 4294967296) :
    unpackHI (be16 a ++ be32 b) = some (a, b) := by
  simp only [be16, be32, List.cons_append, List.nil_append, unpackHI]
  rw [be16_val ha, be32_val hb]

theorem unpackIH_app {a b : Nat} (ha : a < 4294967296) (hb : b < 65536) :
    unpackIH (be32 a ++ be16 b) = some (a, b) := by
  simp only [be16, be32, List.cons_append, List.nil_append, unpackIH]
  rw [be16_val hb, be32_val ha]

theorem parseRd_app {t : Nat} (ht : t < 65536) {x : Bytes} (hx : x.length = 6) :
    parseRd (be16 t ++ x) =
      if t = 0 then (unpackHI x).map fun p => Rd.asn p.1 p.2
      else if t = 1 then (unpackIH x).map fun p => Rd.ip p.1 p.2
      else if t = 2 then (unpackIH x).map fun p => Rd.asn p.1 p.2
      else some (Rd.raw x) := by
  simp only [parseRd, slice_take (be16_length t), slice_skip (be16_length t) 0 6, slice_zero_all (Nat.le_of_eq hx),
    unpackH_be16 ht]

theorem rd_rt (rd : Rd) (h : RdOk rd) :
    ∃ w, constructRd rd = some w ∧ w.length = 8 ∧ parseRd w = some rd := by
  cases rd with
  | raw b => exact h.elim
  | ip i n =>
    refine ⟨_, if_pos h, rfl, ?_⟩
    rw [List.append_assoc, parseRd_app (by decide) rfl, unpackIH_app h.1 h.2]; rfl
  | asn a b =>
    rcases h with ⟨ha, hb⟩ | ⟨ha, ha2, hb⟩
    · refine ⟨be16 0 ++ be16 a ++ be32 b, by simp [constructRd, ha, hb], rfl, ?_⟩
      rw [List.append_assoc, parseRd_app (by decide) rfl, unpackHI_app (by omega) hb]; rfl
    · refine ⟨be16 2 ++ be32 a ++ be16 b, by rw [constructRd, if_neg (by omega), if_pos ⟨ha2, hb⟩], rfl, ?_⟩
      rw [List.append_assoc, parseRd_app (by decide) rfl, unpackIH_app ha2 hb]; rfl

theorem hexDigits_unfold (n : Nat) : hexDigits n = if n < 16 then 1 else 1 + hexDigits (n / 16) := by
  rw [hexDigits]; split <;> simp_all

theorem hexDigits_le (k : Nat) : ∀ v, v < 16 ^ (k + 1) → hexDigits v ≤ k + 1 := by
  induction k with
  | zero => intro v hv; rw [hexDigits_unfold]; simp at hv; simp [hv]
  | succ k ih =>
    intro v hv
    rw [hexDigits_unfold]
    split
    · omega
    · have : v / 16 < 16 ^ (k + 1) := by
        rw [Nat.pow_succ] at hv
        exact Nat.div_lt_of_lt_mul (by rw [Nat.mul_comm]; exact hv)
      have := ih (v / 16) this
      omega

theorem mac6_ok {m : Nat} (h : m < 2 ^ 48) : mac6 m = some (beN 6 m) := if_pos h

theorem hexInt_mac {m : Nat} (h : m < 2 ^ 48) : hexInt (beN 6 m) = some m := hexInt_beN (by decide) h

theorem hexInt_be32 {a : Nat} (h : a < 4294967296) : hexInt (be32 a) = some a := by
  rw [be32_beN]; exact hexInt_beN (by decide) h

theorem esi_rt (e : Esi) (h : EsiOk e) :
    ∃ w, constructEsi e = some w ∧ w.length = 10 ∧ parseEsi w = some e := by
  cases e with
  | other t => exact h.elim
  | t0 v =>
    have hv : v < 2 ^ 72 := h
    refine ⟨0 :: beN 9 v, by rw [constructEsi, if_pos (hexDigits_le 17 v hv)], by simp, ?_⟩
    simp [parseEsi, slice, unpackB, hexInt_beN (show 0 < 9 by decide) (show v < 256 ^ 9 from hv)]
  | t1 m k | t2 m k =>
    -- one layout for both: type octet, MAC, 16-bit field, a zero octet
    refine ⟨_, by rw [constructEsi, mac6_ok h.1]; exact if_pos h.2, by simp, ?_⟩
    simp only [List.append_assoc, List.cons_append, List.nil_append, parseEsi, slice_take_one, slice_skip_one,
      slice_take (beN_length 6 m), slice_skip (beN_length 6 m), slice_take (be16_length k), unpackB, hexInt_mac h.1,
      unpackH_be16 h.2]
    rfl
  | t3 m ld =>
    have ⟨hm, hl⟩ := h
    refine ⟨_, by rw [constructEsi, mac6_ok hm]; exact if_pos (by omega), by simp, ?_⟩
    have e3 : hexInt (be24 ld) = some ld := by
      rw [be24_beN]; exact hexInt_beN (by decide) hl
    simp only [List.cons_append, List.nil_append, parseEsi, slice_take_one, slice_skip_one, slice_take (beN_length 6 m),
      List.drop_succ_cons, drop_skip (beN_length 6 m) 0, List.drop_zero, unpackB, hexInt_mac hm, e3]
    rfl
  | t4 a ld | t5 a ld =>
    refine ⟨_, if_pos h, by simp, ?_⟩
    simp only [List.append_assoc, List.cons_append, List.nil_append, parseEsi, slice_take_one, slice_skip_one,
      slice_take (be32_length a), slice_skip (be32_length a), slice_take (be32_length ld), unpackB, hexInt_be32 h.1,
      unpackI_be32 h.2]
    rfl

/-- `parse_ip_address` on a big-endian field: the width of the field decides the family -/
theorem parseIp_beN {k v : Nat} (hk : 0 < k) (hv : v < 256 ^ k) :
    parseIp (beN k v) =
      if k ≤ 4 then some { v6 := false, val := v } else if v < 2 ^ 128 then some { v6 := true, val := v } else none := by
  unfold parseIp
  split
  · rename_i hh; exact absurd hh (beN_ne_nil hk)
  · rw [beN_length, beVal_beN_of_lt hv]

theorem parseIp_be32 {v : Nat} (h : v < 2 ^ 32) : parseIp (be32 v) = some { v6 := false, val := v } := by
  rw [be32_beN, parseIp_beN (by decide) h]; rfl

theorem parseIp_beN16 {v : Nat} (h : v < 2 ^ 128) : parseIp (beN 16 v) = some { v6 := true, val := v } := by
  rw [parseIp_beN (by decide) h, if_neg (by decide), if_pos h]

def ipLen : Option Ip → Nat
  | none => 0
  | some ip => if ip.v6 then 16 else 4

theorem ipPacked_rt (ip : Ip) (h : IpOk ip) :
    ∃ nb, ipPacked ip = some nb ∧ (nb.length = 4 ∨ nb.length = 16) ∧ nb.length = ipLen (some ip) ∧
      parseIp nb = some ip := by
  obtain ⟨v6, val⟩ := ip
  cases v6
  · have hv : val < 2 ^ 32 := h
    exact ⟨be32 val, if_pos hv, .inl rfl, rfl, parseIp_be32 hv⟩
  · have hv : val < 2 ^ 128 := h
    exact ⟨beN 16 val, if_pos hv, .inr (beN_length _ _), beN_length _ _, parseIp_beN16 hv⟩

theorem ipfield_rt (ip : Option Ip) (h : OptIpOk ip) :
    ∃ l body, constructIpField ip = some (l :: body) ∧ l.toNat / 8 = body.length ∧ body.length = ipLen ip ∧
      (∀ rest, parseIpField [l] (body ++ rest) = some ip) := by
  cases ip with
  | none => exact ⟨0, [], rfl, rfl, rfl, fun rest => by simp [parseIpField]⟩
  | some ip =>
    obtain ⟨nb, hnb, h416, hl, hp⟩ := ipPacked_rt ip h
    have hl8 : (u8 (nb.length * 8)).toNat = nb.length * 8 := u8_toNat (by omega)
    refine ⟨u8 (nb.length * 8), nb, by simp [constructIpField, hnb], by omega, hl, fun rest => ?_⟩
    rw [parseIpField, if_neg (by omega), hl8, Nat.mul_div_cancel _ (by decide), List.take_left' rfl, hp]; rfl

theorem constructLabels_single (l : Nat) :
    constructLabels [l] =
      if l ≠ 0 then (if l * 16 + 1 < 4294967296 then some (be24 (l * 16 + 1)) else none) else some [0, 0, 0] := by
  simp [constructLabels, constructInitLabels]

theorem constructLabels_cons2 (l l' : Nat) (r : List Nat) :
    constructLabels (l :: l' :: r) =
      if l * 16 < 4294967296 then (constructLabels (l' :: r)).map (be24 (l * 16) ++ ·) else none := by
  simp only [constructLabels, List.getLast?_cons_cons, List.dropLast_cons_cons, constructInitLabels]
  cases hl : (l' :: r).getLast? with
  | none => simp at hl
  | some last =>
    simp only
    by_cases h16 : l * 16 < 4294967296
    · simp only [h16, ↓reduceIte]
      cases constructInitLabels (l' :: r).dropLast with
      | none => simp
      | some ini =>
        simp only [Option.map_some]
        by_cases h0 : last = 0
        · simp [h0]
        · simp only [ne_eq, h0, not_false_eq_true, ↓reduceIte]
          split <;> simp
    · simp [h16]

/-- one stack entry: the label is the upper 20 bits, the lowest bit ends the stack -/
theorem parseLabels_be24 {x : Nat} (hx : x < 16777216) (r : Bytes) :
    parseLabels (be24 x ++ r) = if x % 2 = 1 then [x / 16] else x / 16 :: parseLabels r := by
  have hc : (u8 x).toNat % 2 = x % 2 := by rw [u8_toNat_mod]; omega
  simp only [be24, List.cons_append, List.nil_append, parseLabels, be24_val hx, hc]

theorem labels_rt (ls : List Nat) (h : LabelsOk ls) (hne : ls ≠ []) :
    ∃ w, constructLabels ls = some w ∧ parseLabels w = ls ∧ w.length = 3 * ls.length := by
  induction ls with
  | nil => exact absurd rfl hne
  | cons l r ih =>
    have hl : l < 1048576 := h l (by simp)
    cases r with
    | nil =>
      rw [constructLabels_single]
      by_cases h0 : l = 0
      · subst h0; exact ⟨[0, 0, 0], by simp, by simp [parseLabels], by simp⟩
      · refine ⟨be24 (l * 16 + 1), by simp [h0]; omega, ?_, by simp⟩
        rw [← List.append_nil (be24 _), parseLabels_be24 (by omega), if_pos (by omega)]
        congr 1; omega
    | cons l' r' =>
      obtain ⟨w, hw, hp, hlen⟩ := ih (fun x hx => h x (by simp [hx])) (by simp)
      refine ⟨be24 (l * 16) ++ w, ?_, ?_, by simp [hlen]; omega⟩
      · rw [constructLabels_cons2, if_pos (by omega), hw]; rfl
      · rw [parseLabels_be24 (by omega), if_neg (by omega), Nat.mul_div_cancel _ (by decide), hp]

def routeLen : Route → Nat
  | .t1 _ _ _ label => 22 + 3 * label.length
  | .t2 _ _ _ _ ip label => 30 + ipLen ip + 3 * label.length
  | .t3 _ _ ip => 13 + ipLen ip
  | .t4 _ _ ip => 19 + ipLen ip
  | _ => 0

/-- the value space of C07 for EVPN routes: types 1-4, every field inside its width, and the route fits the
    1-octet length of its entry (at most 77 labels for type 1, 69..75 for type 2) -/
def RouteOk : Route → Prop
  | .t1 rd esi tag label =>
      RdOk rd ∧ EsiOk esi ∧ tag < 4294967296 ∧ LabelsOk label ∧ label ≠ [] ∧ 22 + 3 * label.length < 256
  | .t2 rd esi tag mac ip label =>
      RdOk rd ∧ EsiOk esi ∧ tag < 4294967296 ∧ mac < 2 ^ 48 ∧ OptIpOk ip ∧ LabelsOk label ∧
      30 + ipLen ip + 3 * label.length < 256
  | .t3 rd tag ip => RdOk rd ∧ tag < 4294967296 ∧ OptIpOk ip
  | .t4 rd esi ip => RdOk rd ∧ EsiOk esi ∧ OptIpOk ip
  | .t5 .. => False
  | .t5c .. => False
  | .unk _ => False

instance : DecidablePred RouteOk := fun r => by cases r <;> unfold RouteOk <;> infer_instance

theorem ipLen_le (ip : Option Ip) : ipLen ip ≤ 16 := by
  cases ip with
  | none => exact Nat.zero_le _
  | some ip => simp only [ipLen]; split <;> omega

theorem routeOk_fits {r : Route} (h : RouteOk r) : 0 < routeLen r ∧ routeLen r < 256 ∧ r.type < 256 := by
  cases r with
  | t1 | t2 => simp only [RouteOk] at h; simp only [routeLen, Route.type]; omega
  | t3 _ _ ip | t4 _ _ ip => have := ipLen_le ip; simp only [routeLen, Route.type]; omega
  | t5 | t5c | unk => exact h.elim

theorem route_rt (r : Route) (h : RouteOk r) :
    ∃ v, constructRouteValue r = some v ∧ v.length = routeLen r ∧ decodeRoute r.type v = .ok r := by
  cases r with
  | t1 rd esi tag label =>
    obtain ⟨hrd, hesi, htag, hl, hne, _⟩ := h
    obtain ⟨a, ha, hal, hap⟩ := rd_rt rd hrd
    obtain ⟨b, hb, hbl, hbp⟩ := esi_rt esi hesi
    obtain ⟨d, hd, hdp, hdl⟩ := labels_rt label hl hne
    refine ⟨a ++ b ++ be32 tag ++ d, by simp only [constructRouteValue, constructT1, ha, hb, hd, htag, ↓reduceIte],
      by simp [routeLen, hal, hbl, hdl]; omega, ?_⟩
    have : parseT1 (a ++ (b ++ (be32 tag ++ d))) = some (.t1 rd esi tag label) := by
      simp only [parseT1, slice_take hal, slice_skip hal, slice_take hbl, slice_skip hbl, slice_take (be32_length tag),
        drop_skip hal, drop_skip hbl, drop_skip (be32_length tag) 0, List.drop_zero, hap, hbp, unpackI_be32 htag, hdp]
    simp [decodeRoute, Route.type, this]
  | t2 rd esi tag mac ip label =>
    obtain ⟨hrd, hesi, htag, hmac, hip, hl, _⟩ := h
    obtain ⟨a, ha, hal, hap⟩ := rd_rt rd hrd
    obtain ⟨b, hb, hbl, hbp⟩ := esi_rt esi hesi
    obtain ⟨l, i, hi, hli, hil, hpi⟩ := ipfield_rt ip hip
    obtain ⟨d, hd, hdp, hdl⟩ : ∃ d, (if label = [] then some [] else constructLabels label) = some d ∧
        parseLabels d = label ∧ d.length = 3 * label.length := by
      by_cases hne : label = []
      · subst hne; exact ⟨[], rfl, rfl, rfl⟩
      · simpa [hne] using labels_rt label hl hne
    refine ⟨a ++ b ++ be32 tag ++ [48] ++ beN 6 mac ++ (l :: i) ++ d,
      by simp only [constructRouteValue, constructT2, ha, hb, mac6_ok hmac, hi, hd, htag, ↓reduceIte],
      by simp [routeLen, hal, hbl, hil, hdl]; omega, ?_⟩
    have : parseT2 (a ++ (b ++ (be32 tag ++ (48 :: (beN 6 mac ++ (l :: (i ++ d))))))) =
        some (.t2 rd esi tag mac ip label) := by
      simp only [parseT2, t2LabelOffset, slice_take hal, slice_skip hal, slice_take hbl, slice_skip hbl,
        slice_take (be32_length tag), slice_skip (be32_length tag), slice_skip_one, slice_take (beN_length 6 mac),
        slice_skip (beN_length 6 mac), slice_take_one, Nat.add_comm 30, drop_skip hal, drop_skip hbl,
        drop_skip (be32_length tag), List.drop_succ_cons, drop_skip (beN_length 6 mac), List.drop_zero,
        List.drop_left' hli.symm, hap, hbp, unpackI_be32 htag, hexInt_mac hmac, hpi d, hdp]
    simp [decodeRoute, Route.type, this]
  | t3 rd tag ip =>
    obtain ⟨hrd, htag, hip⟩ := h
    obtain ⟨a, ha, hal, hap⟩ := rd_rt rd hrd
    obtain ⟨l, i, hi, _, hil, hpi⟩ := ipfield_rt ip hip
    refine ⟨a ++ be32 tag ++ (l :: i), by simp only [constructRouteValue, constructT3, ha, hi, htag, ↓reduceIte],
      by simp [routeLen, hal, hil]; omega, ?_⟩
    have : parseT3 (a ++ (be32 tag ++ (l :: i))) = some (.t3 rd tag ip) := by
      simp only [parseT3, slice_take hal, slice_skip hal, slice_take (be32_length tag), slice_skip (be32_length tag),
        slice_take_one, drop_skip hal, drop_skip (be32_length tag), List.drop_succ_cons, List.drop_zero, hap,
        unpackI_be32 htag, List.append_nil i ▸ hpi []]
    simp [decodeRoute, Route.type, this]
  | t4 rd esi ip =>
    obtain ⟨hrd, hesi, hip⟩ := h
    obtain ⟨a, ha, hal, hap⟩ := rd_rt rd hrd
    obtain ⟨b, hb, hbl, hbp⟩ := esi_rt esi hesi
    obtain ⟨l, i, hi, _, hil, hpi⟩ := ipfield_rt ip hip
    refine ⟨a ++ b ++ (l :: i), by simp only [constructRouteValue, constructT4, ha, hb, hi],
      by simp [routeLen, hal, hbl, hil]; omega, ?_⟩
    have : parseT4 (a ++ (b ++ (l :: i))) = some (.t4 rd esi ip) := by
      simp only [parseT4, slice_take hal, slice_skip hal, slice_take hbl, slice_skip hbl, slice_take_one, drop_skip hal,
        drop_skip hbl, List.drop_succ_cons, List.drop_zero, hap, hbp, List.append_nil i ▸ hpi []]
    simp [decodeRoute, Route.type, this]
  | t5 | t5c | unk => exact h.elim

theorem parseRoutes_nil : parseRoutes [] = some [] := by rw [parseRoutes]

theorem parseRoutes_cons2 (t l : UInt8) (rest : Bytes) :
    parseRoutes (t :: l :: rest) =
      match decodeRoute t.toNat (rest.take l.toNat) with
      | .err => none
      | .skip => parseRoutes (rest.drop l.toNat)
      | .ok r => (parseRoutes (rest.drop l.toNat)).map (r :: ·) := by
  rw [parseRoutes]
  cases decodeRoute t.toNat (List.take l.toNat rest) <;> rfl

theorem parseRoutes_tlv (t : Nat) (body rest : Bytes) (ht : t < 256) (hb : body.length < 256) :
    parseRoutes (u8 t :: u8 body.length :: (body ++ rest)) =
      match decodeRoute t body with
      | .err => none
      | .skip => parseRoutes rest
      | .ok r => (parseRoutes rest).map (r :: ·) := by
  rw [parseRoutes_cons2, u8_toNat ht, u8_toNat hb, List.take_left' rfl, List.drop_left' rfl]

theorem parseRoutes_route (r : Route) (h : RouteOk r) :
    ∃ w, constructRoute r = some w ∧ w.length = 2 + routeLen r ∧
      ∀ rest, parseRoutes (w ++ rest) = (parseRoutes rest).map (r :: ·) := by
  obtain ⟨v, hv, hvl, hd⟩ := route_rt r h
  obtain ⟨hpos, hlt, ht⟩ := routeOk_fits h
  obtain ⟨x, xs, rfl⟩ := List.exists_cons_of_ne_nil (List.ne_nil_of_length_pos (hvl ▸ hpos))
  refine ⟨u8 r.type :: u8 (x :: xs).length :: (x :: xs), ?_, by rw [← hvl]; simp; omega, fun rest => ?_⟩
  · rw [constructRoute, hv]
    exact if_pos ⟨ht, hvl ▸ hlt⟩
  · exact (parseRoutes_tlv r.type (x :: xs) rest ht (hvl ▸ hlt)).trans (by rw [hd])

def routesLen (rs : List Route) : Nat := (rs.map fun r => 2 + routeLen r).sum

theorem parseRoutes_list (rs : List Route) (hok : ∀ r ∈ rs, RouteOk r) :
    ∃ w, constructRoutes rs = some w ∧ w.length = routesLen rs ∧
      ∀ rest, parseRoutes (w ++ rest) = (parseRoutes rest).map (rs ++ ·) :=
  constructRoutes_eq ▸ decode_encAll parseRoutes constructRoute (2 + routeLen ·) rs fun r hr =>
    parseRoutes_route r (hok r hr)

theorem parseRoutes_unknown (t : Nat) (body rest : Bytes) (ht : t < 256) (hb : body.length < 256)
    (hu : t ∉ [1, 2, 3, 4, 5]) :
    parseRoutes (u8 t :: u8 body.length :: (body ++ rest)) = parseRoutes rest := by
  rw [parseRoutes_tlv t body rest ht hb]
  simp only [List.mem_cons, List.not_mem_nil, or_false, not_or] at hu
  simp [decodeRoute, hu]

/-! ### route type 5 (IP prefix): the shape `construct` takes differs from the shape `parse` returns -/

theorem esi_zero_double : parseEsi ([0, 0] ++ beN 8 0) = some (Esi.t0 0) := by decide

theorem parseT5_app {a e c p g : Bytes} {rd : Rd} {esi : Esi} {tag : Nat} {pfx gw : Ip} (x : UInt8) (d : Bytes)
    (ha : a.length = 8) (he : e.length = 10) (hc : c.length = 4) (hw : t5Width (p ++ (g ++ d)) = p.length)
    (hg : g.length = p.length) (hrd : parseRd a = some rd) (hesi : parseEsi e = some esi)
    (htag : unpackI c = some tag) (hp : parseIp p = some pfx) (hgw : parseIp g = some gw) :
    parseT5 (a ++ (e ++ (c ++ (x :: (p ++ (g ++ d)))))) = some (.t5 rd esi tag pfx x.toNat gw (parseLabels d)) := by
  simp only [parseT5, slice_take ha, slice_skip ha, slice_take he, slice_skip he, slice_take hc, slice_skip hc,
    slice_take_one, drop_skip ha, drop_skip he, drop_skip hc, List.drop_succ_cons, List.drop_zero, hw,
    List.take_left' rfl, List.drop_left' rfl, List.take_left' hg, List.drop_left' hg, unpackB, hrd, hesi, htag, hp, hgw]

/-- type 5 decodes back only in this corner: ESI number 0 (packed as an IEEE double by `construct`), prefix and
    gateway of the same family, exactly ONE label (the decoder derives the address width from the total length) -/
theorem t5_rt (rd : Rd) (tag plen l : Nat) (pfx gw : Ip) (hrd : RdOk rd) (htag : tag < 4294967296)
    (hplen : plen < 256) (hp : IpOk pfx) (hg : IpOk gw) (hfam : pfx.v6 = gw.v6) (hl : l < 1048576) :
    ∃ w, constructT5 rd 0 tag pfx plen gw [l] = some w ∧ parseT5 w = some (.t5 rd (.t0 0) tag pfx plen gw [l]) := by
  obtain ⟨a, ha, hal, hap⟩ := rd_rt rd hrd
  obtain ⟨p, hpp, hp4, hpl, hppar⟩ := ipPacked_rt pfx hp
  obtain ⟨g, hgp, _, hgl, hgpar⟩ := ipPacked_rt gw hg
  obtain ⟨d, hd, hdp, hdl⟩ := labels_rt [l] (fun x hx => by simp at hx; subst hx; exact hl) (by simp)
  have hk : g.length = p.length := by rw [hpl, hgl, ipLen, ipLen, hfam]
  have hw : t5Width (p ++ (g ++ d)) = p.length := by
    simp only [t5Width, List.length_append, hk, hdl, List.length_cons, List.length_nil]
    rcases hp4 with h | h <;> simp [h]
  refine ⟨a ++ [0, 0] ++ beN 8 0 ++ be32 tag ++ [u8 plen] ++ p ++ g ++ d,
    by simp [constructT5, ha, packDouble, hpp, hgp, hd, htag, hplen], ?_⟩
  have := parseT5_app (u8 plen) d hal (e := [0, 0] ++ beN 8 0) (by simp) (be32_length tag) hw hk hap esi_zero_double
    (unpackI_be32 htag) hppar hgpar
  rw [u8_toNat hplen, hdp] at this
  simpa using this

end Yabgp
