/-
  Lemmas for the multiprotocol NLRI round trips (C07a) and the compositionality of the NLRI list
  decoders (C15).  Each piece of a route (label stack, route distinguisher, prefix octets) comes as one
  statement "it encodes to some bytes, of this length, which the decoder reads back"; a route is an
  `Elem` of its family's encoder and loop step; everything about lists of routes is proved once for the
  generic `while data:` loop `many`, in Lemmas/ListCodec.lean.
  The Mathlib import fixes `256 ^ k` on ℕ as `Monoid.npow`, the reading shared with Lemmas/PrefixRt.lean and
  Lemmas/EvfBytes.lean.
-/
import Mathlib.Algebra.Group.Nat.Defs
import Yabgp.Model.Mp.MpUnreach
import Yabgp.Lemmas.Basic
import Yabgp.Lemmas.Agree
import Yabgp.Lemmas.EvfBytes
import Yabgp.Lemmas.ListCodec

namespace Yabgp.Mp

@[simp] theorem zeros_length (k : Nat) : (zeros k).length = k := by simp [zeros]

theorem beVal_pad (b : Bytes) (k : Nat) : beVal (b ++ zeros k) = beVal b * 256 ^ k := by
  induction k with
  | zero => simp [zeros]
  | succ k ih =>
    rw [show b ++ zeros (k + 1) = (b ++ zeros k) ++ [0] by simp [zeros, List.replicate_succ'], beVal_snoc, ih,
      Nat.pow_succ, Nat.mul_assoc]
    rfl

theorem ceil8_add (n l : Nat) : ceil8 (8 * n + l) = n + ceil8 l := by
  simp only [ceil8_eq]; omega

theorem pad_octets (m l : Nat) : (8 * m - l) / 8 = m - ceil8 l := by
  rw [ceil8_eq]; omega

theorem beVal_take_pad {m l n : Nat} (hl : l ≤ 8 * m) (hn : n < 256 ^ m) (hz : n % 256 ^ (m - (l + 7) / 8) = 0) :
    ((beN m n).take (ceil8 l)).length = ceil8 l ∧ ((beN m n).take (ceil8 l)).length ≤ m ∧
      beVal ((beN m n).take (ceil8 l) ++ zeros (m - ((beN m n).take (ceil8 l)).length)) = n := by
  have hk : ceil8 l ≤ m := by rw [ceil8_eq]; omega
  have hlen : ((beN m n).take (ceil8 l)).length = ceil8 l := by
    rw [List.length_take_of_le (by rw [beN_length]; exact hk)]
  rw [← ceil8_eq] at hz
  refine ⟨hlen, Nat.le_trans (Nat.le_of_eq hlen) hk, ?_⟩
  rw [hlen, beVal_pad, beVal_take_mul hk hn hz]

theorem unpackI_beVal (b : Bytes) (h : b.length = 4) : unpackI b = some (beVal b) := by
  match b, h with
  | [a, b, c, d], _ => simp [unpackI, beVal]; omega

theorem parseLabels_be24 (x : Nat) (hx : x < 16777216) (r : Bytes) :
    parseLabels (be24 x ++ r) = if x % 2 = 1 then [x / 16] else x / 16 :: parseLabels r := by
  simp only [be24, List.cons_append, List.nil_append, parseLabels, be24_val hx]

/-- labels the property ranges over: 20 bits -/
def LabelOk (l : Nat) : Prop := l < 1048576

theorem pack24_lt {x : Nat} (h : x < 16777216) : pack24 x = some (be24 x) :=
  if_pos (Nat.lt_trans h (by decide))

/-- a stack of in-range labels whose last element the encoder `last` writes with the bottom-of-stack bit
    decodes to itself, whatever follows; it has 3 octets per label -/
theorem parseLabels_enc (last : Nat → Option Bytes) (ls : List Nat) (hne : ls ≠ [])
    (hall : ∀ l ∈ ls, LabelOk l)
    (hlast : ∀ l, ls.getLast? = some l → last l = some (be24 (l * 16 + 1))) :
    ∃ w, encLabels last ls = some w ∧ w.length = 3 * ls.length ∧
      ∀ rest, parseLabels (w ++ rest) = ls := by
  induction ls with
  | nil => exact absurd rfl hne
  | cons l r ih =>
    have hl : l < 1048576 := hall l List.mem_cons_self
    cases r with
    | nil =>
      refine ⟨be24 (l * 16 + 1), hlast l rfl, rfl, fun rest => ?_⟩
      rw [parseLabels_be24 _ (by omega), if_pos (by omega)]
      congr 1
      omega
    | cons m t =>
      obtain ⟨w, hw, hlen, hp⟩ := ih (List.cons_ne_nil _ _) (fun x hx => hall x (List.mem_cons_of_mem _ hx))
        (fun x hx => hlast x (by rwa [List.getLast?_cons_cons]))
      refine ⟨be24 (l * 16) ++ w, ?_, ?_, fun rest => ?_⟩
      · simp only [encLabels, pack24_lt (show l * 16 < 16777216 by omega), hw]
      · rw [List.length_append, hlen, be24_length, List.length_cons (a := l), Nat.mul_add, Nat.add_comm]
      · rw [List.append_assoc, parseLabels_be24 _ (by omega), if_neg (by omega), hp]
        congr 1
        omega

/-- route distinguishers the property ranges over: the two text forms with every field in range
    (`asn:an` is wire type 0 up to asn 65535 and wire type 2 above) -/
def RdOk : Rd → Prop
  | .asForm asn an => (asn ≤ 65535 ∧ an < p32) ∨ (65535 < asn ∧ asn < p32 ∧ an < 65536)
  | .ipForm ip an => ip < p32 ∧ an < 65536
  | .raw _ => False

instance (rd : Rd) : Decidable (RdOk rd) := by
  cases rd <;> unfold RdOk <;> infer_instance

theorem parseRd_tag (t : Nat) (v : Bytes) (ht : t < 256) :
    parseRd (be16 t ++ v) = parseRd ((0 : UInt8) :: u8 t :: v) := by
  have : t / 256 = 0 := by omega
  simp [be16, this, u8]

/-- wire type 0: 2-octet asn, 4-octet number -/
theorem parseRd_type0 {asn an : Nat} (h1 : asn < 65536) (h2 : an < 4294967296) :
    parseRd (be16 0 ++ be16 asn ++ be32 an) = some (.asForm asn an) := by
  have ht : (be16 asn ++ be32 an).take 6 = be16 asn ++ be32 an := List.take_of_length_le (by simp)
  rw [List.append_assoc, parseRd_tag 0 _ (by decide)]
  simp only [parseRd, ht, rd16_be16 h1, unpackI_be32 h2]
  simp [u8]

/-- wire types 1 and 2: 4-octet address or asn, 2-octet number -/
theorem parseRd_type12 {t x an : Nat} (ht : t = 1 ∨ t = 2) (h1 : x < 4294967296) (h2 : an < 65536) :
    parseRd (be16 t ++ be32 x ++ be16 an) = some (if t = 1 then .ipForm x an else .asForm x an) := by
  have hk : (be32 x ++ be16 an).take 6 = be32 x ++ be16 an := List.take_of_length_le (by simp)
  rw [List.append_assoc, parseRd_tag t _ (by omega)]
  simp only [parseRd, hk, rd32_be32 h1, unpackH_be16 h2]
  rcases ht with rfl | rfl <;> simp [u8]

/-- the wire type `construct_rd` chooses for a text -/
def rdType : Rd → Nat
  | .asForm asn _ => if asn ≤ 65535 then 0 else 2
  | .ipForm _ _ => 1
  | .raw _ => 0

theorem parseRd_enc (rd : Rd) (h : RdOk rd) :
    ∃ w, constructRd rd = some w ∧ w.length = 8 ∧ parseRd w = some rd ∧ w.take 2 = be16 (rdType rd) := by
  cases rd with
  | raw b => exact absurd h id
  | ipForm ip an =>
    obtain ⟨h1, h2⟩ := h
    exact ⟨be16 1 ++ be32 ip ++ be16 an, by simp [constructRd, h1, h2], rfl,
      parseRd_type12 (Or.inl rfl) h1 h2, rfl⟩
  | asForm asn an =>
    rcases h with ⟨h1, h2⟩ | ⟨h1, h2, h3⟩
    · exact ⟨be16 0 ++ be16 asn ++ be32 an, by simp [constructRd, h1, h2], rfl,
        parseRd_type0 (by omega) h2, by rw [rdType, if_pos h1]; rfl⟩
    · have h1' : ¬ asn ≤ 65535 := by omega
      exact ⟨be16 2 ++ be32 asn ++ be16 an, by simp [constructRd, h1', h2, h3], rfl,
        parseRd_type12 (Or.inr rfl) h2 h3, by rw [rdType, if_neg h1']; rfl⟩

def IpOk : Ip → Prop
  | .v4 n => n < p32
  | .v6 n => n < p128

instance (a : Ip) : Decidable (IpOk a) := by
  cases a <;> unfold IpOk <;> infer_instance

theorem ipOfInt_lt {a : Nat} (h : a < 256 ^ 4) : ipOfInt a = some (.v4 a) := if_pos h

theorem ip6OfInt_lt {a : Nat} (h : a < 256 ^ 16) : ip6OfInt a = some (.v6 a) := if_pos h

theorem packed_length (a : Ip) : a.packed.length = a.width / 8 := by
  cases a <;> simp [Ip.packed, Ip.width]

theorem nhAddr_packed (a : Ip) (h : IpOk a) : nhAddr a.packed = some a := by
  cases a with
  | v4 n =>
    have hne : be32 n ≠ [] := List.cons_ne_nil _ _
    have hv : beVal (be32 n) = n := by rw [be32_beN, beVal_beN_of_lt (m := 4) h]
    simp [nhAddr, Ip.packed, intOfBytes, hne, hv]
  | v6 n =>
    have hne : beN 16 n ≠ [] := fun hh => by simpa using congrArg List.length hh
    simp [nhAddr, Ip.packed, intOfBytes, hne, beVal_beN_of_lt (m := 16) h, ip6OfInt_lt h]

theorem intOfBytes_pad {m a : Nat} {ph : Bytes} (hm : 0 < m)
    (hv : beVal (ph ++ zeros (m - ph.length)) = a) : intOfBytes (ph ++ zeros (m - ph.length)) = some a := by
  rw [intOfBytes, if_neg, hv]
  intro hh
  have := congrArg List.length hh
  rw [List.length_append, zeros_length, List.length_nil] at this
  omega

/-- a prefix of family `af` the property ranges over: every mask length of the family, and no address bits
    beyond the last octet the mask length covers (network form implies it; host bits inside the last octet are
    allowed, the code sends and returns them as they are) -/
def PfxOk (af : AF) (p : MPfx) : Prop :=
  match af, p.addr with
  | .inet, .v4 a => 0 ≤ p.len ∧ p.len ≤ 32 ∧ a < p32 ∧ a % 256 ^ (4 - (p.len.toNat + 7) / 8) = 0
  | .inet6, .v6 a => 0 ≤ p.len ∧ p.len ≤ 128 ∧ a < p128 ∧ a % 256 ^ (16 - (p.len.toNat + 7) / 8) = 0
  | _, _ => False

instance (af : AF) (p : MPfx) : Decidable (PfxOk af p) := by
  obtain ⟨addr, len⟩ := p
  cases af <;> cases addr <;> unfold PfxOk <;> simp only <;> infer_instance

theorem pfxOk_of_network6 (a l : Nat) (hl : l ≤ 128) (ha : a < p128) (hn : a % 2 ^ (128 - l) = 0) :
    PfxOk .inet6 { addr := .v6 a, len := l } :=
  ⟨Int.natCast_nonneg l, Int.ofNat_le.mpr hl, ha, mod_octets_of_network (m := 16) hn⟩

theorem pfxOk_of_network4 (a l : Nat) (hl : l ≤ 32) (ha : a < p32) (hn : a % 2 ^ (32 - l) = 0) :
    PfxOk .inet { addr := .v4 a, len := l } :=
  ⟨Int.natCast_nonneg l, Int.ofNat_le.mpr hl, ha, mod_octets_of_network (m := 4) hn⟩

theorem PfxOk.components {af : AF} {p : MPfx} (h : PfxOk af p) :
    ∃ (a l : Nat), p.len = (l : Int) ∧
      ((af = .inet ∧ p.addr = .v4 a ∧ l ≤ 32 ∧ a < 256 ^ 4 ∧ a % 256 ^ (4 - (l + 7) / 8) = 0) ∨
       (af = .inet6 ∧ p.addr = .v6 a ∧ l ≤ 128 ∧ a < 256 ^ 16 ∧ a % 256 ^ (16 - (l + 7) / 8) = 0)) := by
  obtain ⟨addr, len⟩ := p
  cases af <;> cases addr <;> simp only [PfxOk] at h
  · rename_i a
    obtain ⟨h0, h1, h2, h3⟩ := h
    exact ⟨a, len.toNat, (Int.toNat_of_nonneg h0).symm, Or.inl ⟨rfl, rfl, Int.toNat_le.mpr h1, h2, h3⟩⟩
  · rename_i a
    obtain ⟨h0, h1, h2, h3⟩ := h
    exact ⟨a, len.toNat, (Int.toNat_of_nonneg h0).symm, Or.inr ⟨rfl, rfl, Int.toNat_le.mpr h1, h2, h3⟩⟩

def afAddr : AF → Nat → Ip
  | .inet, a => .v4 a
  | .inet6, a => .v6 a

def afOctets : AF → Nat
  | .inet => 4
  | .inet6 => 16

/-- `construct_prefix_v4` / `construct_prefix_v6` on an in-range prefix `a/l` write the first ceil(l/8) octets
    `ph` of the address; zero padded back to the family width their value is `a`.  All three NLRI codecs use
    the prefix through this statement only. -/
theorem PfxOk.enc {af : AF} {p : MPfx} (h : PfxOk af p) :
    ∃ (a l : Nat) (ph : Bytes), p = { addr := afAddr af a, len := (l : Int) } ∧ l ≤ 8 * afOctets af ∧
      a < 256 ^ afOctets af ∧ luPrefixHex af p = some ph ∧ ph.length = ceil8 l ∧ ph.length ≤ afOctets af ∧
      beVal (ph ++ zeros (afOctets af - ph.length)) = a := by
  obtain ⟨a, l, hlen, hc⟩ := h.components
  obtain ⟨addr, len⟩ := p
  simp only at hlen hc
  subst hlen
  rcases hc with ⟨rfl, rfl, hl, ha, hz⟩ | ⟨rfl, rfl, hl, ha, hz⟩
  · obtain ⟨h1, h2, h3⟩ := beVal_take_pad (m := 4) hl ha hz
    refine ⟨a, l, _, rfl, hl, ha, ?_, h1, h2, h3⟩
    show (if a < p32 then some ((be32 a).take (prefixOctetsV4 (l : Int))) else none) = _
    rw [if_pos (show a < p32 from ha), prefixOctetsV4_eq (Int.natCast_nonneg l) (Int.ofNat_le.mpr hl), Int.toNat_natCast,
      ceil8_eq, be32_beN]
  · obtain ⟨h1, h2, h3⟩ := beVal_take_pad (m := 16) hl ha hz
    refine ⟨a, l, _, rfl, hl, ha, ?_, h1, h2, h3⟩
    show (if 0 ≤ (l : Int) ∧ (l : Int) ≤ ((128 : Nat) : Int)
          then some ((beN 16 a).take (((l : Int).toNat + 7) / 8)) else none) = _
    rw [if_pos ⟨Int.natCast_nonneg l, Int.ofNat_le.mpr hl⟩, Int.toNat_natCast, ceil8_eq]

/-- IPv6 unicast routes the property ranges over (no add-path entry: the constructor cannot encode one) -/
def U6Ok (r : U6Route) : Prop := r.pathId = none ∧ PfxOk .inet6 r.pfx

instance (r : U6Route) : Decidable (U6Ok r) := by unfold U6Ok; infer_instance

/-- `IPv6Unicast.construct` writes the mask length in front of what `construct_prefix_v6` writes -/
theorem encU6Route_eq (p : MPfx) :
    encU6Route { pfx := p } = (constructPrefixV6 p).map (be8 p.len.toNat ++ ·) := by
  simp only [encU6Route, constructPrefixV6, ceil8_eq]
  split <;> rfl

theorem U6Ok.enc {r : U6Route} (h : U6Ok r) :
    ∃ (a l : Nat) (ph : Bytes), r = { pfx := { addr := .v6 a, len := (l : Int) } } ∧ l ≤ 128 ∧ a < 256 ^ 16 ∧
      encU6Route r = some (be8 l ++ ph) ∧ ph.length = ceil8 l ∧ ph.length ≤ 16 ∧
      beVal (ph ++ zeros (16 - ph.length)) = a := by
  obtain ⟨pfx, pid⟩ := r
  obtain ⟨hp, hpfx⟩ := h
  simp only at hp hpfx
  subst hp
  obtain ⟨a, l, ph, rfl, hl, ha, hph, hlen, hk, hv⟩ := hpfx.enc
  refine ⟨a, l, ph, rfl, hl, ha, ?_, hlen, hk, hv⟩
  rw [encU6Route_eq, show constructPrefixV6 _ = some ph from hph]
  rfl

theorem parseU6One_seg (pid : Option Nat) (a l : Nat) (ph rest : Bytes) (hl : l ≤ 128) (ha : a < 256 ^ 16)
    (hlen : ph.length = ceil8 l) (hv : beVal (ph ++ zeros (16 - ph.length)) = a) :
    parseU6One pid (be8 l ++ ph ++ rest) =
      .ok ({ pfx := { addr := .v6 a, len := (l : Int) }, pathId := pid }, rest) := by
  have hz : (128 - l) / 8 = 16 - ph.length := hlen ▸ pad_octets 16 l
  simp only [be8, List.cons_append, List.nil_append, parseU6One, u8_toNat (show l < 256 by omega), ← hlen, hz,
    List.take_left, List.drop_left, intOfBytes_pad (by decide) hv, ip6OfInt_lt ha]

theorem u6_route (r : U6Route) (h : U6Ok r) : Elem (stepU6 false) encU6Route r := by
  obtain ⟨a, l, ph, rfl, hl, ha, he, hlen, _, hv⟩ := h.enc
  exact ⟨_, he, by simp [be8], fun rest => parseU6One_seg none a l ph rest hl ha hlen hv⟩

/-- the input class on which IPv6Unicast.parse's `b'\x00\x00'` special case fires inside the encoding of `rs`
    followed by `rest`: a default route `::/0` followed by exactly one more zero octet - either a second and
    last `::/0`, or a single 0x00 in `rest`.  `U6Safe` excludes precisely that. -/
def oneMoreDefault (xs : List U6Route) (rest : Bytes) : Prop :=
  match xs with
  | [y] => y.pfx.len = 0 ∧ rest = []
  | _ => False

instance (xs : List U6Route) (rest : Bytes) : Decidable (oneMoreDefault xs rest) := by
  unfold oneMoreDefault; split <;> infer_instance

def U6Safe : List U6Route → Bytes → Prop
  | [], _ => True
  | x :: xs, rest =>
    ¬ (x.pfx.len = 0 ∧ ((xs = [] ∧ rest = [0]) ∨ oneMoreDefault xs rest)) ∧ U6Safe xs rest

instance U6Safe.dec : (rs : List U6Route) → (rest : Bytes) → Decidable (U6Safe rs rest)
  | [], _ => isTrue trivial
  | x :: xs, rest =>
    have := U6Safe.dec xs rest
    by unfold U6Safe; infer_instance

theorem u6_enc_zero {r : U6Route} (h : U6Ok r) {t : Bytes} (he : encU6Route r = some (0 :: t)) :
    r.pfx.len = 0 ∧ t = [] := by
  obtain ⟨a, l, ph, rfl, hl, ha, he', hlen, _, hv⟩ := h.enc
  rw [he'] at he
  injection he with he
  injection he with h0 ht
  have := congrArg UInt8.toNat h0
  rw [u8_toNat (show l < 256 by omega)] at this
  have hl0 : l = 0 := this
  subst hl0
  exact ⟨rfl, by rw [← ht]; exact List.eq_nil_of_length_eq_zero hlen⟩

theorem u6_noStop (rs : List U6Route) (rest : Bytes) (hok : ∀ r ∈ rs, U6Ok r) (hs : U6Safe rs rest) :
    NoStop stopU6 encU6Route rs rest := by
  induction rs with
  | nil => trivial
  | cons x xs ih =>
    obtain ⟨hx, hs'⟩ := hs
    have hok' : ∀ r ∈ xs, U6Ok r := fun r hr => hok r (List.mem_cons_of_mem _ hr)
    refine ⟨fun w hw => ?_, ih hok' hs'⟩
    obtain ⟨e, w2, he, hw2, rfl⟩ := encAll_cons_some hw
    simp only [stopU6, decide_eq_false_iff_not]
    intro heq
    -- the first octet of `e` is zero, so `x` is `::/0` and one zero octet is left for `xs` and `rest`
    obtain ⟨y, t, rfl⟩ := List.exists_cons_of_ne_nil ((u6_route x (hok x List.mem_cons_self)).spec e he).1
    rw [List.append_assoc, List.cons_append] at heq
    injection heq with hy heq
    subst hy
    obtain ⟨hx0, rfl⟩ := u6_enc_zero (hok x List.mem_cons_self) he
    rw [List.nil_append] at heq
    obtain ⟨w', hw', hlen⟩ := encAll_elems _ encU6Route xs fun r hr => u6_route r (hok' r hr)
    rw [hw2] at hw'
    cases hw'
    have hl1 := congrArg List.length heq
    rw [List.length_append] at hl1
    apply hx
    refine ⟨hx0, ?_⟩
    -- `w2 ++ rest = [0]` and every route takes at least one octet: `xs` has at most one route
    match xs, hw2, hlen, hok' with
    | [], hw2, _, _ =>
      cases hw2
      exact Or.inl ⟨rfl, heq⟩
    | [z], hw2, _, hok' =>
      obtain ⟨ez, w3, hez, hw3, rfl⟩ := encAll_cons_some hw2
      cases hw3
      have hne := ((u6_route z (hok' z List.mem_cons_self)).spec ez hez).1
      obtain ⟨b, t, rfl⟩ := List.exists_cons_of_ne_nil hne
      simp only [List.append_nil, List.cons_append, List.cons.injEq, List.append_eq_nil_iff] at heq
      obtain ⟨rfl, rfl, rfl⟩ := heq
      exact Or.inr ⟨(u6_enc_zero (hok' z List.mem_cons_self) hez).1, rfl⟩
    | _ :: _ :: _, _, hlen, _ =>
      simp only [List.length_cons, List.length_nil] at hlen hl1
      omega

theorem luAddr_seg (af : AF) (a l n : Nat) (w ph rest : Bytes) (hw : w.length = 3 * n)
    (ha : a < 256 ^ afOctets af) (hlen : ph.length = ceil8 l)
    (hv : beVal (ph ++ zeros (afOctets af - ph.length)) = a) :
    luAddr af (8 * (3 * n) + l) n (w ++ (ph ++ rest)) = some (afAddr af a) := by
  have hsl : ((w ++ (ph ++ rest)).take (3 * n + ph.length)).drop (3 * n) = ph := by
    rw [← List.append_assoc]
    exact slice_mid hw.symm (by rw [hw])
  cases af with
  | inet =>
    simp only [luAddr, ceil8_add, ← hlen, hsl, Nat.add_comm 4, Nat.add_sub_add_left,
      intOfBytes_pad (m := 4) (by decide) hv, ipOfInt_lt ha, afAddr]
  | inet6 =>
    have hz : (128 + 24 * n - (8 * (3 * n) + l)) / 8 = 16 - ph.length := by
      rw [hlen, ← pad_octets 16 l]; congr 1; omega
    simp only [luAddr, ceil8_add, ← hlen, hsl, hz,
      intOfBytes_pad (m := 16) (by decide) hv, ip6OfInt_lt ha, afAddr]

theorem vpnAddr_seg (af : AF) (a : Nat) (ph : Bytes) (ha : a < 256 ^ afOctets af) (hlen : ph.length ≤ afOctets af)
    (hv : beVal (ph ++ zeros (afOctets af - ph.length)) = a) : vpnAddr af ph = some (afAddr af a) := by
  cases af with
  | inet =>
    have hlen : ph.length ≤ 4 := hlen
    have hv : beVal (ph ++ zeros (4 - ph.length)) = a := hv
    simp only [vpnAddr, afAddr]
    rw [unpackI_beVal _ (by simp; omega), hv]
  | inet6 =>
    simp only [vpnAddr, intOfBytes_pad (m := 16) (by decide) hv, ip6OfInt_lt ha, afAddr]

/-- labeled-unicast routes the property ranges over: a non-empty stack of 20-bit labels, every mask length of
    the family, and the whole NLRI within the one-octet length field.  A last label of 0 is excluded: the shared
    label-stack encoder writes it without bottom-of-stack (known finding `KF_C07_labeled_last_label_zero`). -/
def LuOk (af : AF) (r : LuRoute) : Prop :=
  r.pathId = none ∧ r.labels ≠ [] ∧ (∀ l ∈ r.labels, LabelOk l) ∧ r.labels.getLast? ≠ some 0 ∧
  PfxOk af r.pfx ∧ 24 * (r.labels.length : Int) + r.pfx.len ≤ 255

instance (l : Nat) : Decidable (LabelOk l) := by unfold LabelOk; infer_instance
instance (af : AF) (r : LuRoute) : Decidable (LuOk af r) := by unfold LuOk; infer_instance

theorem lu_route (af : AF) (r : LuRoute) (h : LuOk af r) : Elem (stepLu af false) (encLuRoute af) r := by
  obtain ⟨ls, pfx, pid⟩ := r
  obtain ⟨hp, hne, hall, hlast, hpfx, htot⟩ := h
  simp only at hp hne hall hlast hpfx htot
  subst hp
  obtain ⟨a, l, ph, rfl, hl, ha, hph, hlen, _, hv⟩ := hpfx.enc
  obtain ⟨w, hw, hwl, hparse⟩ := parseLabels_enc encLastLu ls hne hall fun x hx => by
    have hx0 : x ≠ 0 := fun h0 => hlast (h0 ▸ hx)
    simp only [encLastLu, hx0, ↓reduceIte]
    exact pack24_lt (by have : x < 1048576 := hall x (List.mem_of_getLast? hx); omega)
  simp only at htot
  have hL : 8 * (3 * ls.length) + l < 256 := by omega
  refine ⟨be8 (8 * (3 * ls.length) + l) ++ w ++ ph, ?_, by simp [be8], fun rest => ?_⟩
  · have hX : 8 * ((3 * ls.length : Nat) : Int) + (l : Int) = ((8 * (3 * ls.length) + l : Nat) : Int) := by
      simp only [Int.natCast_add, Int.natCast_mul]; rfl
    simp only [encLuRoute, encLuWith, hw, hph, hwl]
    rw [hX, if_pos ⟨Int.natCast_nonneg _, Int.ofNat_lt.mpr hL⟩, Int.toNat_natCast]
  · simp only [stepLu, Bool.false_eq_true, ↓reduceIte, be8, List.cons_append, List.nil_append,
      List.append_assoc, parseLuOne, u8_toNat hL, hparse,
      luAddr_seg af a l ls.length w ph rest hwl ha hlen hv, ceil8_add, ← hlen]
    rw [show ((8 * (3 * ls.length) + l : Nat) : Int) - 24 * (ls.length : Int) = (l : Int) by omega,
      ← hwl, ← List.append_assoc, ← List.length_append, List.drop_left]

/-- VPN routes the property ranges over.  Announced: a non-empty stack of 20-bit labels (label 0 included).
    Withdrawn: the label field is the constant 0x800000, which the decoder reports as `[524288]`. -/
def VpnOk (af : AF) (iswithdraw : Bool) (r : VpnRoute) : Prop :=
  r.pathId = none ∧
  (if iswithdraw then r.labels = [withdrawLabel] else r.labels ≠ [] ∧ ∀ l ∈ r.labels, LabelOk l) ∧
  RdOk r.rd ∧ PfxOk af r.pfx ∧ 8 * (3 * (r.labels.length : Int) + 8) + r.pfx.len ≤ 255

instance (af : AF) (w : Bool) (r : VpnRoute) : Decidable (VpnOk af w r) := by unfold VpnOk; infer_instance

theorem vpnLabels_enc (wd : Bool) (ls : List Nat)
    (h : if wd then ls = [withdrawLabel] else ls ≠ [] ∧ ∀ l ∈ ls, LabelOk l) :
    ∃ w, (if wd then some withdrawLabelHex else encLabels encLastVpn ls) = some w ∧
      w.length = 3 * ls.length ∧ ∀ rest, vpnLabels wd (w ++ rest) = ls := by
  cases wd with
  | true => exact ⟨withdrawLabelHex, rfl, by rw [h]; rfl, fun _ => h.symm⟩
  | false =>
    obtain ⟨w, hw, hwl, hparse⟩ := parseLabels_enc encLastVpn ls h.1 h.2
      fun x hx => pack24_lt (by have : x < 1048576 := h.2 x (List.mem_of_getLast? hx); omega)
    exact ⟨w, hw, hwl, hparse⟩

theorem vpn_route (af : AF) (wd : Bool) (r : VpnRoute) (h : VpnOk af wd r) :
    Elem (stepVpn af wd false) (encVpnRoute af wd) r := by
  obtain ⟨ls, rd, pfx, pid⟩ := r
  obtain ⟨hp, hlab, hrd, hpfx, htot⟩ := h
  simp only at hp hlab hrd hpfx htot
  subst hp
  obtain ⟨a, l, ph, rfl, hl, ha, hph, hlen, hk, hv⟩ := hpfx.enc
  obtain ⟨rh, hrh, hrhl, hrdp, _⟩ := parseRd_enc rd hrd
  obtain ⟨w, hw, hwl, hvl⟩ := vpnLabels_enc wd ls hlab
  simp only at htot
  have hL : l + 8 * (3 * ls.length + 8) < 256 := by omega
  refine ⟨be8 (l + 8 * (3 * ls.length + 8)) ++ w ++ rh ++ ph, ?_, by simp [be8], fun rest => ?_⟩
  · have hph' : vpnPrefixHex af { addr := afAddr af a, len := (l : Int) } = some ph := by
      cases af <;> exact hph
    have hX : (l : Int) + 8 * (((3 * ls.length : Nat) : Int) + ((8 : Nat) : Int))
        = ((l + 8 * (3 * ls.length + 8) : Nat) : Int) := by
      simp only [Int.natCast_add, Int.natCast_mul]; rfl
    simp only [encVpnRoute, encVpnWith, hw, hrh, hph', hwl, hrhl]
    rw [hX, if_pos ⟨Int.natCast_nonneg _, Int.ofNat_lt.mpr hL⟩, Int.toNat_natCast]
  · have hc : ceil8 (l + 8 * (3 * ls.length + 8)) = (w ++ rh).length + ph.length := by
      rw [Nat.add_comm l, ceil8_add, List.length_append, hwl, hrhl, hlen]
    have hs1 : slice (w ++ (rh ++ (ph ++ rest))) (3 * ls.length) (8 + 3 * ls.length) = rh := by
      rw [← List.append_assoc]
      exact slice_mid hwl.symm (by omega)
    have hs2 : slice (w ++ (rh ++ (ph ++ rest))) (8 + 3 * ls.length) ((w ++ rh).length + ph.length) = ph := by
      rw [← List.append_assoc, ← List.append_assoc]
      exact slice_mid (by rw [List.length_append]; omega) rfl
    simp only [stepVpn, Bool.false_eq_true, ↓reduceIte, be8, List.cons_append, List.nil_append,
      List.append_assoc, parseVpnOne, u8_toNat hL, hvl, hc, hs1, hs2, hrdp, vpnAddr_seg af a ph ha hk hv]
    rw [← List.append_assoc, ← List.append_assoc, ← List.length_append, List.drop_left,
      show ((l + 8 * (3 * ls.length + 8) : Nat) : Int) - 8 * (3 * (ls.length : Int) + 8) = (l : Int) by omega]

theorem attrWrap_ok (code : Nat) (v : Bytes) (h : v.length < 65536) :
    attrWrap code v = .ok ([0x90, u8 code] ++ be16 v.length ++ v) := by
  simp [attrWrap, h]

theorem parseMpReach_value (ap : Bool) (afi safi : Nat) (nh nlri : Bytes)
    (hafi : afi < 65536) (hsafi : safi < 256) (hn : nh.length < 256) :
    parseMpReach ap (reachValue afi safi nh.length nh nlri) = parseReachBody afi safi ap nh nlri := by
  simp only [reachValue, be16, be8, List.cons_append, List.nil_append, parseMpReach, be16_val hafi, u8_toNat hsafi,
    u8_toNat hn, List.append_assoc]
  congr 1
  · exact List.take_left' rfl
  · have : nh ++ (0 : UInt8) :: nlri = (nh ++ [0]) ++ nlri := by simp
    rw [this]
    exact List.drop_left' (by simp)

theorem parseMpUnreach_value (ap : Bool) (afi safi : Nat) (nlri : Bytes) (hafi : afi < 65536) (hsafi : safi < 256) :
    parseMpUnreach ap (unreachValue afi safi nlri) = parseUnreachBody afi safi ap nlri := by
  simp only [unreachValue, be16, be8, List.cons_append, List.nil_append, parseMpUnreach, be16_val hafi,
    u8_toNat hsafi]

theorem afi_lt (af : AF) : af.afi < 65536 := by cases af <;> decide
theorem afOf_afi (af : AF) : afOf af.afi = some af := by cases af <;> rfl
theorem afi_ne (af : AF) : ¬ (af.afi = 2 ∧ safiLabel = safiUnicast) := by simp [safiLabel, safiUnicast]

/-- the next hop dictionary of the VPN families: the RD text must be of the `asn:an` form with a 2-octet asn -/
def NhRdOk : Rd → Prop
  | .asForm asn an => asn < 65536 ∧ an < p32
  | _ => False

instance (rd : Rd) : Decidable (NhRdOk rd) := by cases rd <;> unfold NhRdOk <;> infer_instance

theorem vpnNexthop_enc (rd : Rd) (a : Ip) (hrd : NhRdOk rd) (ha : IpOk a) :
    ∃ nh, constructVpnNexthop rd a = some nh ∧ nh.length < 256 ∧ vpnNexthop nh = .ok (rd, a) := by
  cases rd with
  | raw b => exact absurd hrd (by simp [NhRdOk])
  | ipForm x y => exact absurd hrd (by simp [NhRdOk])
  | asForm asn an =>
    obtain ⟨h1, h2⟩ := hrd
    refine ⟨be16 0 ++ be16 asn ++ be32 an ++ a.packed, by simp [constructVpnNexthop, h1, h2], ?_, ?_⟩
    · simp [packed_length]; cases a <;> simp [Ip.width]
    · have hrdp := parseRd_type0 h1 h2
      have ht : (be16 0 ++ be16 asn ++ be32 an ++ a.packed).take 8 = be16 0 ++ be16 asn ++ be32 an :=
        List.take_left' (by simp)
      have hd : (be16 0 ++ be16 asn ++ be32 an ++ a.packed).drop 8 = a.packed :=
        List.drop_left' (by simp)
      simp only [vpnNexthop, ht, hd, hrdp, nhAddr_packed a ha]

/-- an IPv6 address text (next hops of IPv6 unicast: the length octet says 16 per address) -/
def IsV6 : Ip → Prop
  | .v6 n => n < p128
  | .v4 _ => False

instance (a : Ip) : Decidable (IsV6 a) := by cases a <;> unfold IsV6 <;> infer_instance

theorem IsV6.ok {a : Ip} (h : IsV6 a) : IpOk a ∧ a.packed.length = 16 := by
  cases a with
  | v4 n => exact absurd h (by simp [IsV6])
  | v6 n => exact ⟨h, by simp [Ip.packed]⟩

theorem u6Nexthop_enc (a : Ip) (ha : IsV6 a) : u6Nexthop a.packed = .ok (a, none) := by
  obtain ⟨hok, hlen⟩ := ha.ok
  have ht : a.packed.take 16 = a.packed := List.take_of_length_le (by omega)
  simp only [u6Nexthop, ht, nhAddr_packed a hok, hlen]
  simp

theorem u6Nexthop_enc_ll (a l : Ip) (ha : IsV6 a) (hl : IsV6 l) :
    u6Nexthop (a.packed ++ l.packed) = .ok (a, some l) := by
  obtain ⟨hok, hlen⟩ := ha.ok
  obtain ⟨hokl, hlenl⟩ := hl.ok
  have ht : (a.packed ++ l.packed).take 16 = a.packed := List.take_left' hlen
  have hd : (a.packed ++ l.packed).drop 16 = l.packed := List.drop_left' hlen
  simp only [u6Nexthop, ht, hd, nhAddr_packed a hok, nhAddr_packed l hokl, List.length_append, hlen, hlenl]
  simp

theorem oneMoreDefault_nil_iff (xs : List U6Route) :
    oneMoreDefault xs [] ↔ ∃ y, xs = [y] ∧ y.pfx.len = 0 := by
  unfold oneMoreDefault
  split
  · rename_i y
    constructor
    · intro h; exact ⟨y, rfl, h.1⟩
    · rintro ⟨z, hz, hz0⟩
      simp only [List.cons.injEq, and_true] at hz
      subst hz; exact ⟨hz0, rfl⟩
  · rename_i hne
    constructor
    · intro h; exact absurd h id
    · rintro ⟨z, hz, _⟩
      exact absurd hz (hne z)

end Yabgp.Mp
