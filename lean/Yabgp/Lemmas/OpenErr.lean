/-
  Open.parse only ever raises the error sub-codes the RFC defines (all below 256), so the NOTIFICATION that answers
  a rejected OPEN can always be constructed.
-/
import Yabgp.Model.Open

namespace Yabgp

def OErr.small : OErr → Prop
  | .hdr s => s < 256
  | .open s => s < 256
  | .other => True

theorem addPathLoop_total (acc : List (Nat × Nat × Nat)) (v : Bytes) : ∃ l, addPathLoop acc v = .ok l := by
  fun_induction addPathLoop acc v with
  | case1 acc a b c d r _ _ ih => exact ih
  | case2 acc a b c d r _ _ ih => exact ih
  | case3 acc a b c d r _ => exact ⟨_, rfl⟩
  | case4 acc v _ => exact ⟨_, rfl⟩

theorem extNhLoop_err (acc : List (Nat × Nat × Nat)) (v : Bytes) (e : OErr) (h : extNhLoop acc v = .error e) :
    e = .other := by
  fun_induction extNhLoop acc v with
  | case1 acc => cases h
  | case2 acc a b c d e' f r ih => exact ih h
  | case3 acc v _ _ => cases h; rfl

/-- a capability whose value does not decode raises something other than a BGP error; the case split follows the
    branches of `applyCap`, all but four of which return -/
theorem applyCap_err (asn : Nat) (d : CapaDict) (code : Nat) (v : Bytes) (e : OErr)
    (h : applyCap asn d code v = .error e) : e = .other := by
  revert h
  fun_cases applyCap asn d code v <;> intro h <;> cases h
  · rfl
  · rfl
  · obtain ⟨_, hl⟩ := addPathLoop_total (d.addPath.getD []) v
    cases hl.symm.trans ‹_ = Except.error _›
  · exact extNhLoop_err _ _ _ ‹_›

theorem capsLoop_err (st : Nat × CapaDict) (b : Bytes) (e : OErr) (h : capsLoop st b = .error e) : e.small := by
  fun_induction capsLoop st b with
  | case1 st => cases h
  | case2 st x => injection h with h; subst h; show C.hdrBadLen < 256; decide
  | case3 st c l rest st' hst ih => exact ih h
  | case4 st c l rest e' he =>
    injection h with h; subst h
    rw [applyCap_err _ _ _ _ _ he]; trivial

theorem optParasLoop_err (st : Nat × CapaDict) (b : Bytes) (e : OErr) (h : optParasLoop st b = .error e) : e.small := by
  fun_induction optParasLoop st b with
  | case1 st => cases h
  | case2 st x => injection h with h; subst h; trivial
  | case3 st t l rest ht => injection h with h; subst h; show C.openUnsupOptParam < 256; decide
  | case4 st t l rest ht st' hst ih => exact ih h
  | case5 st t l rest ht e' he => injection h with h; subst h; exact capsLoop_err _ _ _ he

theorem parseOpen_err (msg : Bytes) (e : OErr) (h : parseOpen msg = .error e) : e.small := by
  revert h
  fun_cases parseOpen msg <;> intro h <;> cases h
  · show C.openBadVersion < 256; decide
  · show C.openBadPeerAs < 256; decide
  · exact optParasLoop_err _ _ _ ‹_›
  · show C.hdrBadLen < 256; decide

end Yabgp
