/-
  Round trip of the agent's own attribute encoder, as the case of the reference encoder it is; the layout of the
  UPDATE body.  (Prefix lists: Lemmas/PrefixRt.)
-/
import Yabgp.Lemmas.RefRt
import Yabgp.Lemmas.PrefixRt

namespace Yabgp
open Spec

theorem refAttr_short (asn4 : Bool) (code : Nat) (v : AttrVal) (p : Bool)
    (h : (refValue asn4 code v).length < 256) :
    refAttr asn4 { code := code, val := v, partialBit := p } =
      be8 (baseFlags code + if p then 0x20 else 0) ++ be8 code ++ be8 (refValue asn4 code v).length ++
        refValue asn4 code v := by
  simp [refAttr, be8, Nat.not_lt.mpr (Nat.le_of_lt_succ h)]

theorem attrHdr1_ref {asn4 : Bool} {f code : Nat} {v : AttrVal} {w : Bytes} (p : Bool)
    (hf : f = baseFlags code + if p then 0x20 else 0)
    (hc : attrHdr1 f code (refValue asn4 code v) = some w) :
    (refValue asn4 code v).length < 65536 ∧
    w = refAttr asn4 { code := code, val := v, partialBit := p } := by
  simp only [attrHdr1, Option.ite_none_right_eq_some, Option.some.injEq] at hc
  obtain ⟨hl, rfl⟩ := hc
  rw [refAttr_short _ _ _ _ hl, ← hf]
  exact ⟨by omega, rfl⟩

theorem constructAttr_ref {asn4 : Bool} {code : Nat} {v : AttrVal} {w : Bytes}
    (hok : AttrOk asn4 code v) (hc : constructAttr asn4 code v = some w) :
    (refValue asn4 code v).length < 65536 ∧
    w = refAttr asn4 { code := code, val := v, partialBit := code == 32 } := by
  cases v with
  | origin n =>
    obtain ⟨rfl, hn⟩ := hok
    exact attrHdr1_ref (f := C.fOrigin) _ (by decide) (by simpa [constructAttr, attrHdr1, refValue, be8, C.tOrigin, hn] using hc)
  | asPath segs =>
    obtain ⟨rfl, hs⟩ := hok
    have hv : refValue asn4 2 (.asPath segs) =
        segs.flatMap fun s => [u8 s.1, u8 s.2.length] ++ s.2.flatMap (asnBytes asn4) := by simp [refValue]
    simp only [constructAttr, C.tAsPath, ↓reduceIte, constructAsPath, encSegments_ref asn4 segs hs,
      Option.bind_eq_bind, Option.bind_some, Option.pure_def, ← hv] at hc
    clear hv
    split at hc
    · rename_i h1
      split at hc
      · rename_i h2
        refine ⟨h2, (Option.some.inj hc).symm.trans ?_⟩
        simp [refAttr, h1, be8]; rfl
      · cases hc
    · rename_i h1
      exact attrHdr1_ref (f := C.fAsPath) _ (by decide) (by rw [attrHdr1, if_pos (by omega)]; exact hc)
  | nextHop ip =>
    obtain ⟨rfl, hn⟩ := hok
    exact attrHdr1_ref (f := C.fNextHop) _ (by decide) (by simpa [constructAttr, attrHdr1, refValue, C.tNextHop, ip4Ok, hn] using hc)
  | med n =>
    obtain ⟨rfl, hn⟩ := hok
    exact attrHdr1_ref (f := C.fMed) _ (by decide) (by simpa [constructAttr, attrHdr1, refValue, C.tMed, hn] using hc)
  | localPref n =>
    obtain ⟨rfl, hn⟩ := hok
    exact attrHdr1_ref (f := C.fLocalPref) _ (by decide) (by simpa [constructAttr, attrHdr1, refValue, C.tLocalPref, hn] using hc)
  | atomicAgg =>
    obtain rfl : code = 6 := hok
    exact attrHdr1_ref (f := C.fAtomicAgg) _ (by decide) (by simpa [constructAttr, attrHdr1, refValue, C.tAtomicAgg] using hc)
  | aggregator a ip =>
    obtain ⟨rfl, ha, hip⟩ := hok
    exact attrHdr1_ref (f := C.fAggregator) _ (by decide) (by simpa [constructAttr, C.tAggregator, ha, ip4Ok, hip, refValue, asnBytes] using hc)
  | community cs =>
    obtain ⟨rfl, hcs⟩ := hok
    have hall : cs.all (· < 4294967296) = true := by simpa [List.all_eq_true] using hcs
    exact attrHdr1_ref (f := C.fCommunity) _ (by decide) (by simpa [constructAttr, refValue, C.tCommunity, hall] using hc)
  | originatorId ip =>
    obtain ⟨rfl, hn⟩ := hok
    exact attrHdr1_ref (f := C.fOriginatorId) _ (by decide) (by simpa [constructAttr, attrHdr1, refValue, C.tOriginatorId, ip4Ok, hn] using hc)
  | clusterList ips =>
    obtain ⟨rfl, hcs⟩ := hok
    have hall : ips.all ip4Ok = true := by simpa [List.all_eq_true, ip4Ok] using hcs
    exact attrHdr1_ref (f := C.fClusterList) _ (by decide) (by simpa [constructAttr, refValue, C.tClusterList, hall] using hc)
  | largeCommunity xs =>
    obtain ⟨rfl, hcs⟩ := hok
    have hall : xs.all (fun t => t.1 < 4294967296 ∧ t.2.1 < 4294967296 ∧ t.2.2 < 4294967296) = true := by
      simpa [List.all_eq_true] using hcs
    simp only [constructAttr, C.tLargeCommunity, hall, and_self, ↓reduceIte] at hc
    exact attrHdr1_ref (f := C.fLargeCommunity) _ (by decide) hc
  | raw b => exact absurd hok id
  | unmodelled c => exact absurd hok id
theorem AttrOk.code_lt {asn4 : Bool} {code : Nat} {v : AttrVal} (h : AttrOk asn4 code v) : code < 256 := by
  cases v <;> simp only [AttrOk] at h <;> omega

theorem attr_roundtrip (asn4 : Bool) (code : Nat) (v : AttrVal) (w rest : Bytes)
    (hok : AttrOk asn4 code v) (hc : constructAttr asn4 code v = some w) :
    ∃ f body, splitAttr (w ++ rest) = some (f, code, body, rest) ∧
      parseAttrValue asn4 code body = .ok v := by
  obtain ⟨hl, rfl⟩ := constructAttr_ref hok hc
  obtain ⟨f, hs⟩ := splitAttr_ref asn4 { code := code, val := v, partialBit := code == 32 } rest hok.code_lt hl
  exact ⟨f, _, hs, refValue_parse asn4 code v (Or.inl hok)⟩

/-- the reference attribute `construct_attributes` writes for a dictionary entry -/
def refOfEntry (kv : Nat × AttrVal) : RefAttr := { code := kv.1, val := kv.2, partialBit := kv.1 == 32 }

theorem constructAttributes_ref {asn4 : Bool} {as : List (Nat × AttrVal)} {w : Bytes}
    (hok : ∀ kv ∈ as, kv.1 ∈ constructCodes ∧ AttrOk asn4 kv.1 kv.2)
    (hc : constructAttributes asn4 as = some w) :
    w = (as.map refOfEntry).flatMap (refAttr asn4) ∧
    ∀ kv ∈ as, (refValue asn4 kv.1 kv.2).length < 65536 := by
  induction as generalizing w with
  | nil => simp [constructAttributes] at hc; simp [hc]
  | cons kv r ih =>
    obtain ⟨hcode, hv⟩ := hok kv (by simp)
    simp only [constructAttributes, hcode, ↓reduceIte, Option.bind_eq_bind, Option.bind_eq_some_iff, Option.pure_def,
      Option.some.injEq] at hc
    obtain ⟨w1, h1, w2, h2, rfl⟩ := hc
    obtain ⟨hl, rfl⟩ := constructAttr_ref hv h1
    obtain ⟨rfl, hr⟩ := ih (fun q hq => hok q (by simp [hq])) h2
    refine ⟨by simp [refOfEntry], fun q hq => ?_⟩
    rcases List.mem_cons.mp hq with rfl | hq
    · exact hl
    · exact hr q hq

theorem attrLoop_roundtrip (asn4 : Bool) (as : List (Nat × AttrVal)) (acc : List (Nat × AttrVal)) (w : Bytes)
    (hok : ∀ kv ∈ as, kv.1 ∈ constructCodes ∧ AttrOk asn4 kv.1 kv.2)
    (hnd : (keys acc ++ keys as).Nodup) (hc : constructAttributes asn4 as = some w) :
    parseAttrLoop asn4 acc w = (acc ++ as, none) := by
  obtain ⟨rfl, hl⟩ := constructAttributes_ref hok hc
  have hmap : (as.map refOfEntry).map (fun a => (a.code, a.val)) = as := by
    rw [List.map_map]; exact List.map_id as
  have hcodes : (as.map refOfEntry).map (·.code) = keys as := by rw [List.map_map]; rfl
  rw [attrLoop_ref asn4 _ acc ?_ (by rwa [hcodes]), hmap]
  intro a ha
  obtain ⟨kv, hkv, rfl⟩ := List.mem_map.mp ha
  exact ⟨(hok kv hkv).2.code_lt, Or.inl (hok kv hkv).2, hl kv hkv⟩

theorem parseUpdate_layout (asn4 addpath : Bool) (w a n : Bytes) {wd : List Pfx}
    (hw : w.length < 65536) (ha : a.length < 65536) (hwd : parsePrefixList addpath w = some wd) :
    parseUpdate asn4 addpath (be16 w.length ++ w ++ be16 a.length ++ a ++ n) =
      some { withdraw := wd, nlri := (parsePrefixList addpath n).getD [], attr := (parseAttributes asn4 a).1,
             subError := match (parseAttributes asn4 a).2 with
                         | some e => some e
                         | none => match parsePrefixList addpath n with
                                   | some _ => none
                                   | none => some C.eInvalidNetworkField } := by
  generalize hm : be16 w.length ++ w ++ be16 a.length ++ a ++ n = msg
  have e1 : slice msg 0 2 = be16 w.length := by
    rw [← hm]; simp [slice, be16]
  have e3 : slice msg 2 (w.length + 2) = w := by
    rw [← hm, List.append_assoc _ a n, List.append_assoc _ _ (a ++ n)]
    exact slice_mid rfl (Nat.add_comm ..)
  have e2 : slice msg (w.length + 2) (w.length + 4) = be16 a.length := by
    rw [← hm, List.append_assoc _ a n]
    exact slice_mid (by simp; omega) (by simp; omega)
  have e4 : slice msg (w.length + 4) (w.length + 4 + a.length) = a := by
    rw [← hm]
    exact slice_mid (by simp; omega) (by simp; omega)
  have e5 : msg.drop (w.length + 4 + a.length) = n := by
    rw [← hm]
    exact List.drop_left' (by simp; omega)
  unfold parseUpdate
  simp only [e1, e2, e3, e4, e5, unpackH_be16 hw, unpackH_be16 ha, hwd]
  cases parsePrefixList addpath n <;> rfl

end Yabgp
