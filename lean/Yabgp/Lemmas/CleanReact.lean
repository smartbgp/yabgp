/-
  The reactions to messages are `Clean`: whenever the tracked connection is up (`Norm`) every reaction counts exactly
  the messages it writes (C18) and lets no exception escape (C10).
-/
import Yabgp.Lemmas.SentBal
import Yabgp.Lemmas.OpenErr

namespace Yabgp
namespace Sess

theorem clean_notifyClose {s : Sess} {i : Nat} (h : Norm s i) (e sub : Nat) (d : Bytes) (he : e < 256) (hs : sub < 256)
    (hd : d.length + 21 < 65536) : Clean s ((s.sendNotification e sub d).errorClose) :=
  (clean_sendNotification h e sub d he hs hd).trans (quiet_ev.errorClose _).clean

theorem clean_fsmErr {s : Sess} {i : Nat} (h : Norm s i) : Clean s ((s.sendNotification C.errFsm 0 []).errorClose) :=
  clean_notifyClose h _ _ _ (by decide) (by decide) (by decide)

theorem clean_headerError {s : Sess} {i : Nat} (h : Norm s i) (sub : Nat) (d : Bytes) (hs : sub < 256)
    (hd : d.length + 21 < 65536) : Clean s (s.headerError sub d) :=
  clean_notifyClose h _ _ _ (by decide) hs hd

theorem clean_openMessageError {s : Sess} {i : Nat} (h : Norm s i) (sub : Nat) (hs : sub < 256) :
    Clean s (s.openMessageError sub) :=
  clean_notifyClose h _ _ _ (by decide) hs (by decide)

theorem clean_fsmOpenReceived {s : Sess} {i : Nat} (h : Norm s i) : Clean s s.fsmOpenReceived := by
  have ka : ∀ k v, Clean s (((((s.setRetry none).sendKeepalive).setKeepalive k).setHold v).setSt .openConfirm) := fun _ _ =>
    ((ext_setRetry s _).clean.trans (clean_sendKeepalive (h.setRetry _))).trans
      (((ext_setKeepalive _ _).trans (ext_setHold _ _)).trans (quiet_ev.setSt _ _)).clean
  unfold fsmOpenReceived
  split
  · exact (quiet_ev.errorClose _).clean
  · exact (quiet_ev.errorClose _).clean
  · split
    · exact ka _ _
    · exact ka _ _
  · exact clean_fsmErr h
  · exact clean_fsmErr h
  · exact .refl _

theorem clean_fsmKeepaliveReceived {s : Sess} {i : Nat} (h : Norm s i) : Clean s s.fsmKeepaliveReceived := by
  unfold fsmKeepaliveReceived
  split
  · exact ((quiet_ev.restartHold s).trans (quiet_ev.setSt _ _)).clean
  · exact (quiet_ev.restartHold s).clean
  · exact (quiet_ev.errorClose _).clean
  · exact (quiet_ev.errorClose _).clean
  · exact clean_fsmErr h
  · exact .refl _

theorem clean_fsmUpdateReceived {s : Sess} {i : Nat} (h : Norm s i) : Clean s s.fsmUpdateReceived := by
  unfold fsmUpdateReceived
  split
  · exact (quiet_ev.restartHold s).clean
  · exact (quiet_ev.errorClose _).clean
  · exact (quiet_ev.errorClose _).clean
  · exact clean_fsmErr h
  · exact clean_fsmErr h
  · exact .refl _

theorem clean_openAccepted {s : Sess} {i : Nat} (h : Norm s i) (j : Nat) (m : OpenMsg) : Clean s (s.openAccepted j m).1 := by
  have caps : ∀ t, t = (s.withRemote m.caps).setAsn4 j ∨ t = s.withRemote m.caps → Quiet s t ∧ Norm t i := by
    rintro t (rfl | rfl)
    · exact ⟨(ext_withRemote s _).trans (sq_setAsn4 _ _), (h.withRemote _).setAsn4 _⟩
    · exact ⟨ext_withRemote s _, h.withRemote _⟩
  refine openAccepted_elim (P := fun r => Clean s r.1) s j m (fun t ht => ?_) (fun t ht => ?_)
  · exact (caps t ht).1.clean.trans (clean_openMessageError (caps t ht).2 _ (by decide))
  · exact (((caps t ht).1.trans (ext_withHoldTime _ _)).clean.trans
      (clean_fsmOpenReceived ((caps t ht).2.withHoldTime _))).trans (Ext.emit _ _ ⟨rfl, rfl⟩).clean

theorem clean_openReceived {s : Sess} {i : Nat} (h : Norm s i) (j : Nat) (body : Bytes) : Clean s (s.openReceived j body).1 := by
  have hb := (sq_bumpRecv s j incOpens).clean
  have hn := h.bumpRecv j incOpens
  refine openReceived_elim (P := fun r => Clean s r.1) s j body (fun sub hp => ?_) (fun sub hp => ?_) hb ?_ (fun m => ?_)
  · exact hb.trans (clean_headerError hn _ _ (parseOpen_err _ _ hp) (by decide))
  · exact hb.trans (clean_openMessageError hn _ (parseOpen_err _ _ hp))
  · exact hb.trans (clean_openMessageError hn _ (by decide))
  · exact hb.trans (clean_openAccepted hn _ _)

theorem clean_dispatch (U : Bool → Bytes → UpdClass) {s : Sess} {i : Nat} (h : Norm s i) (j ty : Nat) (body : Bytes) :
    Clean s (dispatch U s j ty body).1 := by
  have got : ∀ g o, Mute o → Quiet s ((s.bumpRecv j g).emit o) ∧ Norm ((s.bumpRecv j g).emit o) i := fun g o ho =>
    ⟨(sq_bumpRecv s j g).trans (.emit _ _ ho), (h.bumpRecv _ _).emit _⟩
  refine dispatch_elim (P := fun r => Clean s r.1) U s j ty body ?_ ?_ ?_ ?_ ?_ ?_ ?_ ?_ ?_ ?_ ?_ ?_
  · exact fun _ => clean_openReceived h j body
  · exact fun _ => (sq_bumpRecv s _ _).clean
  · exact fun _ => (got _ _ ⟨rfl, rfl⟩).1.clean
  · exact fun _ => (got _ _ ⟨rfl, rfl⟩).1.clean.trans (clean_fsmUpdateReceived (got _ _ ⟨rfl, rfl⟩).2)
  · exact fun _ => (got _ _ ⟨rfl, rfl⟩).1.clean.trans (clean_fsmUpdateReceived (got _ _ ⟨rfl, rfl⟩).2)
  · exact fun _ _ => .refl _
  · exact fun _ _ _ _ _ => ((got _ _ ⟨rfl, rfl⟩).1.trans (quiet_ev.fsmNotificationReceived _ _ _)).clean
  · exact fun _ => (got _ _ ⟨rfl, rfl⟩).1.clean.trans (clean_fsmKeepaliveReceived (got _ _ ⟨rfl, rfl⟩).2)
  · exact fun _ => (got _ _ ⟨rfl, rfl⟩).1.clean.trans (clean_headerError (got _ _ ⟨rfl, rfl⟩).2 _ _ (by decide) (by decide))
  · exact fun _ => (sq_bumpRecv s _ _).clean
  · exact fun _ _ _ _ => (got _ _ ⟨rfl, rfl⟩).1.clean
  · exact fun _ _ _ _ _ => clean_headerError h _ _ (by decide) (by rw [be16_length]; decide)

theorem clean_parseBuffer (U : Bool → Bytes → UpdClass) {s : Sess} {i : Nat} (h : Tracked s i) (buf : Bytes) :
    Clean s (parseBuffer U s i buf).1 := by
  unfold parseBuffer
  split
  · exact .refl _
  · rename_i hd
    have hn : Norm s i := ⟨h.proto, h.lt, h.live.resolve_right hd, by simpa using hd⟩
    split
    · exact .refl _
    · exact clean_headerError hn _ _ (by decide) (by decide)
    · exact clean_headerError hn _ _ (by decide) (by rw [be16_length]; decide)
    · split <;> exact clean_dispatch U hn i _ _

end Sess
end Yabgp
