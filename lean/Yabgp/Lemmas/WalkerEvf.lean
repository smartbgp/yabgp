/-
  C08 for the EVPN constructor model (Model/Mp/Evpn.lean, as repaired: Model/Construct/EvpnGuards.lean):
  lemmas relating it to the walker's EVPN grammar.
-/
import Yabgp.Lemmas.WalkerLemmas
import Yabgp.Model.Construct.EvpnGuards

namespace Yabgp.Walker
open Yabgp.Evpn

theorem getD_append_at (x r : Bytes) (y : UInt8) (n : Nat) (h : x.length = n) : (x ++ y :: r).getD n 0 = y := by
  subst h
  simp [List.getD_eq_getElem?_getD]

theorem evpn_constructRd_length (rd : Evpn.Rd) (b : Bytes) (h : Evpn.constructRd rd = some b) : b.length = 8 := by
  cases rd with
  | asn a c =>
    simp only [Evpn.constructRd] at h
    split at h
    · split at h <;> simp at h; subst h; simp
    · split at h <;> simp at h; subst h; simp
  | ip i n =>
    simp only [Evpn.constructRd] at h
    split at h <;> simp at h; subst h; simp
  | raw _ => simp [Evpn.constructRd] at h

theorem constructInitLabels_length (ls : List Nat) :
    ∀ b, constructInitLabels ls = some b → b.length = 3 * ls.length := by
  induction ls with
  | nil => intro b h; simp [constructInitLabels] at h; subst h; rfl
  | cons l r ih =>
    intro b h
    simp only [constructInitLabels] at h
    split at h
    · cases hr : constructInitLabels r with
      | none => simp [hr] at h
      | some c =>
        simp [hr] at h; subst h
        have := ih c hr
        simp only [List.length_append, be24_length, this, List.length_cons]; omega
    · simp at h

theorem constructLabels_length (ls : List Nat) (b : Bytes) (h : constructLabels ls = some b) :
    b.length = 3 * ls.length ∧ 0 < ls.length := by
  unfold constructLabels at h
  cases hl : ls.getLast? with
  | none => simp [hl] at h
  | some last =>
    simp only [hl] at h
    have hne : ls ≠ [] := by intro e; subst e; simp at hl
    have hlen : ls.dropLast.length = ls.length - 1 := List.length_dropLast
    have hpos : 0 < ls.length := by cases ls <;> simp at hne ⊢
    cases hi : constructInitLabels ls.dropLast with
    | none => simp [hi] at h
    | some ini =>
      simp only [hi] at h
      have hini := constructInitLabels_length ls.dropLast ini hi
      split at h
      · split at h
        · simp only [Option.some.injEq] at h; subst h
          refine ⟨?_, hpos⟩
          simp only [List.length_append, be24_length, hini, hlen]; omega
        · simp at h
      · simp only [Option.some.injEq] at h; subst h
        refine ⟨?_, hpos⟩
        simp only [List.length_append, hini, hlen, List.length_cons, List.length_nil]; omega

theorem labelsLen_of_constructLabels (ls : List Nat) (b : Bytes) (h : constructLabels ls = some b) :
    labelsLen b.length = true := by
  obtain ⟨h1, h2⟩ := constructLabels_length ls b h
  simp [labelsLen, h1]; omega

theorem mac6_length (m : Nat) (b : Bytes) (h : mac6 m = some b) : b.length = 6 := by
  unfold mac6 at h; split at h <;> simp at h; subst h; simp

theorem ipPacked_length (ip : Evpn.Ip) (b : Bytes) (h : ipPacked ip = some b) :
    b.length = if ip.v6 then 16 else 4 := by
  unfold ipPacked at h
  split at h
  · split at h <;> simp at h; subst h; simp [*]
  · split at h <;> simp at h; subst h; simp [*]

/-- the optional IP address field: `00`, or `20` + 4 octets, or `80` + 16 octets -/
theorem constructIpField_spec (ip : Option Evpn.Ip) (b : Bytes) (h : constructIpField ip = some b) :
    ∃ (il : Nat) (x : Bytes), b = u8 il :: x ∧ (il = 0 ∨ il = 32 ∨ il = 128) ∧ x.length = il / 8 := by
  cases ip with
  | none =>
    simp [constructIpField] at h; subst h
    exact ⟨0, [], rfl, Or.inl rfl, rfl⟩
  | some a =>
    simp only [constructIpField] at h
    cases hp : ipPacked a with
    | none => simp [hp] at h
    | some x =>
      simp [hp] at h; subst h
      have hl := ipPacked_length a x hp
      refine ⟨x.length * 8, x, rfl, ?_, by omega⟩
      split at hl <;> omega

/-- the optional IP field behind `k` octets: the octet at `k` is its bit length, and it takes one octet more than that -/
theorem ipField_at {ip : Option Evpn.Ip} {i : Bytes} (h : constructIpField ip = some i) (pre d : Bytes) {k : Nat}
    (hk : pre.length = k) :
    ∃ il, ipLenOk il = true ∧ ((pre ++ i ++ d).getD k 0).toNat = il ∧
      (pre ++ i ++ d).length = k + 1 + il / 8 + d.length := by
  obtain ⟨il, x, rfl, hil, hx⟩ := constructIpField_spec ip i h
  refine ⟨il, by rcases hil with rfl | rfl | rfl <;> rfl, ?_, by simp [hk, hx]; omega⟩
  rw [List.append_assoc, List.cons_append, getD_append_at pre _ _ k hk, u8_toNat (by omega)]

theorem evpn_t1_ok (a b t d : Bytes) (ha : a.length = 8) (hb : b.length = 10) (ht : t.length = 4)
    (hd : labelsLen d.length = true) : evpnRouteOk 1 (a ++ b ++ t ++ d) = true := by
  simp only [evpnRouteOk, ↓reduceIte, List.length_append, ha, hb, ht]
  simpa using hd

theorem evpn_t2_ok {ip : Option Evpn.Ip} {i : Bytes} (hi : constructIpField ip = some i) (a b t m d : Bytes)
    (ha : a.length = 8) (hb : b.length = 10) (ht : t.length = 4) (hm : m.length = 6)
    (hd : labelsLen d.length = true) : evpnRouteOk 2 (a ++ b ++ t ++ [48] ++ m ++ i ++ d) = true := by
  obtain ⟨il, hok, g29, hlen⟩ := ipField_at hi (a ++ b ++ t ++ [48] ++ m) d (k := 29) (by simp [ha, hb, ht, hm])
  have g22 : (a ++ b ++ t ++ [48] ++ m ++ i ++ d).getD 22 0 = 48 := by
    have := getD_append_at (a ++ b ++ t) (m ++ i ++ d) 48 22 (by simp [ha, hb, ht])
    simpa [List.append_assoc] using this
  have e : 29 + 1 + il / 8 + d.length - 30 - il / 8 = d.length := by omega
  simp only [evpnRouteOk, g22, g29, hlen, hok, e, hd]
  simp; omega

/-- types 3 and 4 end in the IP field: behind RD and tag, or behind RD and ESI -/
theorem evpn_ipTail_ok {ty k : Nat} (hty : ty = 3 ∧ k = 12 ∨ ty = 4 ∧ k = 18) {ip : Option Evpn.Ip} {i : Bytes}
    (hi : constructIpField ip = some i) (pre : Bytes) (hk : pre.length = k) : evpnRouteOk ty (pre ++ i) = true := by
  obtain ⟨il, hok, g, hlen⟩ := ipField_at hi pre [] hk
  rw [List.append_nil] at g hlen
  rcases hty with ⟨rfl, rfl⟩ | ⟨rfl, rfl⟩ <;> simp only [evpnRouteOk, g, hlen, hok] <;> simp

theorem evpn_t5_ok (a e t p g d : Bytes) (plen w : Nat) (ha : a.length = 8) (he : e.length = 8) (ht : t.length = 4)
    (hw : w = 4 ∨ w = 16) (hp : p.length = w) (hg : g.length = w) (hd : d.length = 3)
    (hpl : plen ≤ 8 * w) :
    evpnRouteOk 5 (a ++ [0, 0] ++ e ++ t ++ [u8 plen] ++ p ++ g ++ d) = true := by
  have hpl' : (u8 plen).toNat = plen := u8_toNat (by omega)
  have g22 : (a ++ [0, 0] ++ e ++ t ++ [u8 plen] ++ p ++ g ++ d).getD 22 0 = u8 plen := by
    have := getD_append_at (a ++ [0, 0] ++ e ++ t) (p ++ g ++ d) (u8 plen) 22 (by simp [ha, he, ht])
    simpa [List.append_assoc] using this
  have hlen : (a ++ [0, 0] ++ e ++ t ++ [u8 plen] ++ p ++ g ++ d).length = 26 + 2 * w := by
    simp [ha, he, ht, hp, hg, hd]; omega
  simp only [evpnRouteOk, g22, hpl', hlen]
  rcases hw with rfl | rfl <;> simp <;> omega

theorem esiGuard_length (e : Esi) (b : Bytes) (hg : esiGuard e = true) (h : constructEsi e = some b) : b.length = 10 := by
  simpa [esiGuard, h] using hg

theorem packDouble_length (n : Nat) (e : Bytes) (h : packDouble n = some e) : e.length = 8 := by
  unfold packDouble at h
  split at h
  · cases h; simp
  · simp only [Option.ite_none_right_eq_some, Option.some.injEq] at h
    obtain ⟨_, rfl⟩ := h
    simp

theorem routeValue_ok (r : Route) (v : Bytes) (hg : routeGuard r = true) (h : constructRouteValue r = some v)
    (hne : v ≠ []) : evpnRouteOk r.type v = true := by
  cases r with
  | t1 rd esi tag label =>
    simp only [constructRouteValue, constructT1] at h
    split at h
    · rename_i a b d h1 h2 h3
      simp only [Option.ite_none_right_eq_some, Option.some.injEq] at h
      obtain ⟨_, rfl⟩ := h
      exact evpn_t1_ok a b (be32 tag) d (evpn_constructRd_length rd a h1) (esiGuard_length esi b hg h2) rfl
        (labelsLen_of_constructLabels label d h3)
    · cases h
  | t2 rd esi tag mac ip label =>
    simp only [routeGuard, Bool.and_eq_true, decide_eq_true_eq] at hg
    simp only [constructRouteValue, constructT2, if_neg hg.2] at h
    split at h
    · rename_i a b m i d h1 h2 h3 h4 h5
      simp only [Option.ite_none_right_eq_some, Option.some.injEq] at h
      obtain ⟨_, rfl⟩ := h
      exact evpn_t2_ok h4 a b (be32 tag) m d (evpn_constructRd_length rd a h1) (esiGuard_length esi b hg.1 h2) rfl
        (mac6_length mac m h3) (labelsLen_of_constructLabels label d h5)
    · cases h
  | t3 rd tag ip =>
    simp only [constructRouteValue, constructT3] at h
    split at h
    · rename_i a i h1 h4
      simp only [Option.ite_none_right_eq_some, Option.some.injEq] at h
      obtain ⟨_, rfl⟩ := h
      exact evpn_ipTail_ok (.inl ⟨rfl, rfl⟩) h4 _ (by simp [evpn_constructRd_length rd a h1])
    · cases h
  | t4 rd esi ip =>
    simp only [constructRouteValue, constructT4] at h
    split at h
    · rename_i a b i h1 h2 h4
      cases h
      exact evpn_ipTail_ok (.inr ⟨rfl, rfl⟩) h4 _
        (by simp [evpn_constructRd_length rd a h1, esiGuard_length esi b hg h2])
    · cases h
  | t5 rd esi tag pfx plen gw label => cases h
  | t5c rd esi tag pfx plen gw label =>
    simp only [routeGuard, Bool.and_eq_true, decide_eq_true_eq] at hg
    obtain ⟨⟨hfam, hplen⟩, hlab⟩ := hg
    simp only [constructRouteValue, constructT5] at h
    split at h
    · rename_i a e p g d h1 h2 h3 h4 h5
      simp only [Option.ite_none_right_eq_some, Option.some.injEq] at h
      obtain ⟨_, rfl⟩ := h
      have hgw := ipPacked_length gw g h4
      refine evpn_t5_ok a e (be32 tag) p g d plen (if pfx.v6 then 16 else 4) (evpn_constructRd_length rd a h1)
        (packDouble_length esi e h2) rfl (by split <;> simp) (ipPacked_length pfx p h3) (by rw [hgw, ← hfam])
        (by have := (constructLabels_length label d h5).1; omega) ?_
      split at hplen <;> simp_all
    · cases h
  | unk ty =>
    cases h
    exact absurd rfl hne

theorem seq_constructRoute (r : Route) (b : Bytes) (hg : routeGuard r = true) (h : constructRoute r = some b) :
    Seq evpnItem b := by
  unfold constructRoute at h
  split at h
  · cases h
  · cases h; exact Seq.nil _
  · rename_i v hne hv
    simp only [Option.ite_none_right_eq_some, Option.some.injEq] at h
    obtain ⟨hlt, rfl⟩ := h
    exact seq_tlv11 evpnRouteOk r.type _ v hlt.1 rfl hlt.2 (routeValue_ok r v hg hv hne)

theorem seq_constructRoutes (rs : List Route) (hg : rs.all routeGuard = true) (b : Bytes)
    (h : constructRoutes rs = some b) : Seq evpnItem b :=
  encAll_seq _ rs (fun r hr a => seq_constructRoute r a (List.all_eq_true.mp hg r hr)) b (constructRoutes_eq ▸ h)

end Yabgp.Walker
