/-
  Liveness half of C02, data part: the relation `Evo s s'` between the session state before and after any action
  (an instance of the pass `Runs` of Lemmas/Pass.lean).  Its five fields say

  * the configuration never changes;
  * `TB`  - an armed idle-hold timer expires at most one idle-hold period after "now" (the timer is only ever armed with
            `now + 3 * idleHoldT`, the clock only moves forward) - is kept;
  * `BI`  - the BGP identifier is unset or the configured one - is kept;
  * connections are only appended;
  * a connector that has left `connecting` never returns to it.
-/
import Yabgp.Lemmas.Ext

namespace Yabgp
namespace Sess

def TB (s : Sess) : Prop := ∀ d, s.tm.idleHold = some d → d ≤ s.now + 3 * s.cfg.idleHoldT

def BI (s : Sess) : Prop := s.bgpId = none ∨ s.bgpId = some s.cfg.localId

structure Evo (s s' : Sess) : Prop where
  cfg : s'.cfg = s.cfg
  tb : TB s → TB s'
  bi : BI s → BI s'
  len : s.conns.length ≤ s'.conns.length
  phase : ∀ j, j < s.conns.length → (s.conn j).phase ≠ .connecting → (s'.conn j).phase ≠ .connecting

theorem Evo.refl (s : Sess) : Evo s s := ⟨rfl, id, id, Nat.le_refl _, fun _ _ h => h⟩

theorem Evo.trans {a b c : Sess} (h1 : Evo a b) (h2 : Evo b c) : Evo a c :=
  ⟨h2.cfg.trans h1.cfg, fun h => h2.tb (h1.tb h), fun h => h2.bi (h1.bi h), Nat.le_trans h1.len h2.len,
   fun j hj h => h2.phase j (Nat.lt_of_lt_of_le hj h1.len) (h1.phase j hj h)⟩

theorem Evo.of_tm {s s' : Sess} (hc : s'.conns = s.conns) (hn : s'.now = s.now) (hcfg : s'.cfg = s.cfg)
    (hb : s'.bgpId = s.bgpId)
    (hi : s'.tm.idleHold = s.tm.idleHold ∨ s'.tm.idleHold = none ∨ s'.tm.idleHold = some s.idleDeadline) : Evo s s' := by
  refine ⟨hcfg, ?_, ?_, by rw [hc]; exact Nat.le_refl _, ?_⟩
  · intro h d hd
    rw [hn, hcfg]
    rcases hi with hi | hi | hi
    · exact h d (hi ▸ hd)
    · rw [hi] at hd; cases hd
    · rw [hi] at hd; cases hd; exact Nat.le_refl _
  · intro h; unfold BI at *; rw [hb, hcfg]; exact h
  · intro j _ h; simpa [conn, hc] using h

theorem Evo.same {s s' : Sess} (hc : s'.conns = s.conns) (hn : s'.now = s.now) (hcfg : s'.cfg = s.cfg)
    (hb : s'.bgpId = s.bgpId) (hi : s'.tm.idleHold = s.tm.idleHold) : Evo s s' :=
  Evo.of_tm hc hn hcfg hb (Or.inl hi)

theorem Evo.setConn (s : Sess) (j : Nat) (c : Conn) (h : (s.conn j).phase ≠ .connecting → c.phase ≠ .connecting) :
    Evo s (s.setConn j c) := by
  refine ⟨rfl, id, id, by simp, ?_⟩
  intro k _ hk
  rw [conn_setConn]
  split
  · rename_i hh; rw [← hh.1] at hk; exact h hk
  · exact hk

theorem Evo.setPhase (s : Sess) (j : Nat) (p : Phase) (hp : p ≠ .connecting) : Evo s (s.setPhase j p) :=
  .setConn s j _ fun _ => hp

theorem evo_runs : Runs Evo where
  refl := Evo.refl
  trans := Evo.trans
  tm _ _ h := .of_tm rfl rfl rfl rfl h
  withSt _ _ := .same rfl rfl rfl rfl rfl
  withRetryCounter _ _ := .same rfl rfl rfl rfl rfl
  established _ := .same rfl rfl rfl rfl rfl
  setDisconnected s i := .setConn s i _ id
  closing s i := (Evo.setPhase s i .closing nofun).trans (.setConn _ i _ id)
  lose _ _ := .same rfl rfl rfl rfl rfl
  bumpSent s i _ := .setConn s i _ id
  write _ _ _ _ := .same rfl rfl rfl rfl rfl
  escaped _ := .same rfl rfl rfl rfl rfl
  bumpRecv s i _ := .setConn s i _ id
  note _ _ _ := .same rfl rfl rfl rfl rfl
  withRemote _ _ := .same rfl rfl rfl rfl rfl
  setAsn4 s i := .setConn s i _ id
  withHoldTime _ _ := .same rfl rfl rfl rfl rfl
  withAllow _ _ := .same rfl rfl rfl rfl rfl
  withEstab _ _ := .same rfl rfl rfl rfl rfl
  withPending _ _ := .same rfl rfl rfl rfl rfl
  closed s i := .setPhase s i .closed nofun
  addConn s := by
    refine ⟨rfl, id, id, by simp [withConns], fun j _ h => ?_⟩
    rw [conn_addConn]; exact h
  ctl _ _ _ := .same rfl rfl rfl rfl rfl
  advance s dt := by
    refine ⟨rfl, fun hb d hd => ?_, id, Nat.le_refl _, fun _ _ h => h⟩
    have := hb d hd
    show d ≤ s.now + dt + 3 * s.cfg.idleHoldT
    omega
  clear _ := .same rfl rfl rfl rfl rfl
  connected s i := .setPhase s i .connected nofun
  withProto _ _ := .same rfl rfl rfl rfl rfl
  bgpId s t h := by
    refine ⟨h.cfg, h.tb, fun hb => Or.inr ?_, h.len, h.phase⟩
    show some (s.bgpId.getD s.cfg.localId) = some t.cfg.localId
    rw [h.cfg]
    rcases hb with e | e <;> rw [e] <;> rfl
  negotiate _ := .same rfl rfl rfl rfl rfl
  sentOpen _ _ _ _ _ := .same rfl rfl rfl rfl rfl

end Sess

open Sess

theorem evo_step (U : Bool → Bytes → UpdClass) (w : World) (e : Ev) : Evo w.sess (step U w e).sess :=
  evo_runs.step U w e

end Yabgp
