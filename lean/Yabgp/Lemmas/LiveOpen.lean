/-
  Liveness half of C02, the side condition "our OPEN can be built": if the OPEN for the CONFIGURED capability set is
  encodable, so is the OPEN for every capability set obtained from it by dropping capabilities (`CapsLe`, Props/C05) -
  dropping a capability only shortens the capability block.
-/
import Yabgp.Props.C05

namespace Yabgp

/-- a capability that depends on one optional field: dropped (`none`) it contributes nothing, kept it contributes what it did -/
theorem optCap_le {α : Type} {x x0 : Option α} (h : x = none ∨ x = x0) (f : Option α → Option Bytes)
    (hf : f none = some []) {a0 : Bytes} (h0 : f x0 = some a0) : ∃ a, f x = some a ∧ a.length ≤ a0.length := by
  rcases h with rfl | rfl
  · exact ⟨[], hf, Nat.zero_le _⟩
  · exact ⟨a0, h0, Nat.le_refl _⟩

theorem flagCap_le {b b0 : Bool} (h : b = true → b0 = true) (c : Bytes) :
    (if b = true then c else []).length ≤ (if b0 = true then c else []).length := by
  cases b
  · exact Nat.zero_le _
  · rw [h rfl]; exact Nat.le_refl _

theorem capAs4_le (asn : Nat) {l l0 : LocalCaps} (h : CapsLe l l0) {a0 : Bytes} (h0 : capAs4 asn l0 = some a0) :
    ∃ a, capAs4 asn l = some a ∧ a.length ≤ a0.length := by
  unfold capAs4 at h0 ⊢
  by_cases hc : asn > 65535 ∨ l.fourBytesAs = true
  · rw [if_pos (hc.imp_right h.fba)] at h0
    rw [if_pos hc]
    exact ⟨a0, h0, Nat.le_refl _⟩
  · rw [if_neg hc]
    exact ⟨[], rfl, Nat.zero_le _⟩

theorem constructCaps_le (asn : Nat) {l l0 : LocalCaps} (h : CapsLe l l0) {c0 : Bytes}
    (h0 : constructCaps asn l0 = some c0) : ∃ c, constructCaps asn l = some c ∧ c.length ≤ c0.length := by
  unfold constructCaps at h0 ⊢
  split at h0
  · rename_i mp0 as0 enh0 ap0 h1 h2 h3 h4
    obtain ⟨mp, (e1 : capMp l = _), k1⟩ := optCap_le h.afiSafi (fun x => capMp { l0 with afiSafi := x }) rfl h1
    obtain ⟨as4, e2, k2⟩ := capAs4_le asn h h2
    obtain ⟨enh, (e3 : capEnh l = _), k3⟩ := optCap_le h.enh (fun x => capEnh { l0 with extNexthop := x }) rfl h3
    obtain ⟨ap, (e4 : capAp l = _), k4⟩ := optCap_le h.ap (fun x => capAp { l0 with addPath := x }) rfl h4
    have k5 : (capCrr l).length ≤ (capCrr l0).length := flagCap_le h.crr _
    have k6 : (capRr l).length ≤ (capRr l0).length := flagCap_le h.rr _
    have k7 : (capErr l).length ≤ (capErr l0).length := flagCap_le h.err _
    cases h0
    rw [e1, e2, e3, e4]
    refine ⟨_, rfl, ?_⟩
    simp only [List.length_append]
    omega
  · cases h0
/-- this makes the side condition of the liveness theorem a condition on the configuration alone -/
theorem constructOpen_le (asn hold id : Nat) {l l0 : LocalCaps} (h : CapsLe l l0) {w0 : Bytes}
    (h0 : constructOpen 4 asn hold id l0 = some w0) : ∃ w, constructOpen 4 asn hold id l = some w := by
  unfold constructOpen at h0 ⊢
  cases hc0 : constructCaps asn l0 with
  | none => rw [hc0] at h0; cases h0
  | some c0 =>
    obtain ⟨c, hc, hlen⟩ := constructCaps_le asn h hc0
    rw [hc0] at h0
    rw [hc]
    simp only [bind, Option.bind] at h0 ⊢
    split at h0
    · rename_i hcond
      -- the OPEN body is 10 octets and the capability block, which got no longer: the header can be built too
      rw [if_pos ⟨hcond.1, hcond.2.1, hcond.2.2.1, Nat.lt_of_le_of_lt hlen hcond.2.2.2⟩, constructHeader, if_pos]
      · exact ⟨_, rfl⟩
      · simp only [List.length_append, be8, be16, be32, List.length_cons, List.length_nil]; omega
    · cases h0

end Yabgp
