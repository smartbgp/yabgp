/-
  What the reaction helpers may append to the output list: only transport writes, a close, the
  "established" notice or (unreachably) an escape marker — never a connect, never a message report.
-/
import Yabgp.Lemmas.Norm

namespace Yabgp
namespace Sess

section
variable {P : Out → Prop}

theorem oe_withHoldTime (s : Sess) (v : Nat) : OutsExt P s (s.withHoldTime v) := OutsExt.of_same rfl
theorem oe_withRemote (s : Sess) (v : CapaDict) : OutsExt P s (s.withRemote v) := OutsExt.of_same rfl
theorem oe_setIdleHold (s : Sess) (v : Option Nat) : OutsExt P s (s.setIdleHold v) := OutsExt.of_same rfl
theorem oe_setConn (s : Sess) (i : Nat) (c : Conn) : OutsExt P s (s.setConn i c) := OutsExt.of_same rfl
theorem oe_setAsn4 (s : Sess) (i : Nat) : OutsExt P s (s.setAsn4 i) := OutsExt.of_same rfl
theorem oe_bumpRecv (s : Sess) (i : Nat) (g : Stats → Stats) : OutsExt P s (s.bumpRecv i g) := OutsExt.of_same rfl

structure Reactive (P : Out → Prop) : Prop where
  write : ∀ i b, P (.write i b)
  lose : ∀ i, P (.lose i)
  est : P .hEstablished
  esc : P .escaped

theorem Reactive.sends (h : Reactive P) : Sends (OutsExt P) where
  refl := OutsExt.refl P
  trans := OutsExt.trans
  tm _ _ _ := .of_same rfl
  withSt _ _ := .of_same rfl
  withRetryCounter _ _ := .of_same rfl
  established s := .emit s _ h.est
  setDisconnected _ _ := .of_same rfl
  closing _ _ := .of_same rfl
  lose s i := .emit s _ (h.lose i)
  bumpSent _ _ _ := .of_same rfl
  write s i b _ := .emit s _ (h.write i b)
  escaped s := .emit s _ h.esc

end

def isReport : Out → Bool
  | .hOpen .. => true | .hKeepalive .. => true | .hNotification .. => true | .hUpdate .. => true
  | .hUpdateError .. => true | .hRouteRefresh .. => true | _ => false

def reports (l : List Out) : Nat := (l.filter isReport).length

theorem reactive_nonReport : Reactive (fun o => isReport o = false) := ⟨fun _ _ => rfl, fun _ => rfl, rfl, rfl⟩

theorem reports_of_ext {s s' : Sess} (h : OutsExt (fun o => isReport o = false) s s') :
    reports s'.outs = reports s.outs := by
  obtain ⟨ext, e, p⟩ := h
  unfold reports
  rw [e, List.filter_append]
  have : ext.filter isReport = [] := by
    rw [List.filter_eq_nil_iff]; intro o ho; simp [p o ho]
  simp [this]

end Sess
end Yabgp
