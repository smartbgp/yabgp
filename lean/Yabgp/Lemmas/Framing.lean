/-
  What the receive path leaves alone - `Scal`, the scalar fields; `Frm i`, what the framing loop on connection `i`
  depends on; `Tracked`, the loop's invariant - and, from these, the deframer (`headOf`) and the drain loop for C04.
-/
import Yabgp.Lemmas.Pass

namespace Yabgp
namespace Sess

/-- scalar parts of the state that no reaction to a message or timer touches -/
structure Scal (s s' : Sess) : Prop where
  cfg : s'.cfg = s.cfg
  now : s'.now = s.now
  estab : s'.estab = s.estab
  allow : s'.allowAuto = s.allowAuto
  caps : s'.localCaps = s.localCaps
  bgpId : s'.bgpId = s.bgpId

theorem Scal.refl (s : Sess) : Scal s s := ⟨rfl, rfl, rfl, rfl, rfl, rfl⟩
theorem Scal.trans {a b c : Sess} (h1 : Scal a b) (h2 : Scal b c) : Scal a c :=
  ⟨h2.cfg.trans h1.cfg, h2.now.trans h1.now, h2.estab.trans h1.estab, h2.allow.trans h1.allow,
   h2.caps.trans h1.caps, h2.bgpId.trans h1.bgpId⟩

structure Frm (i : Nat) (s s' : Sess) : Prop where
  proto : s'.proto = s.proto
  len : s'.conns.length = s.conns.length
  mono : (s.conn i).disconnected = true → (s'.conn i).disconnected = true
  phase : (s'.conn i).phase = (s.conn i).phase ∨ (s'.conn i).disconnected = true
  scal : Scal s s'

theorem Frm.refl (i : Nat) (s : Sess) : Frm i s s := ⟨rfl, rfl, id, Or.inl rfl, Scal.refl s⟩

theorem Frm.trans {i : Nat} {a b c : Sess} (h1 : Frm i a b) (h2 : Frm i b c) : Frm i a c := by
  refine ⟨h2.proto.trans h1.proto, h2.len.trans h1.len, fun h => h2.mono (h1.mono h), ?_, h1.scal.trans h2.scal⟩
  rcases h2.phase with h | h
  · rcases h1.phase with h' | h'
    · exact Or.inl (h.trans h')
    · exact Or.inr (h2.mono h')
  · exact Or.inr h

theorem Frm.of_same {i : Nat} {s s' : Sess} (hc : s'.conns = s.conns) (hp : s'.proto = s.proto)
    (hs : Scal s s' := by exact ⟨rfl, rfl, rfl, rfl, rfl, rfl⟩) : Frm i s s' := by
  refine ⟨hp, by rw [hc], ?_, ?_, hs⟩ <;> simp [conn, hc]

theorem Frm.setConn_keep {i j : Nat} {s : Sess} {c : Conn}
    (hd : (s.conn j).disconnected = true → c.disconnected = true)
    (hp : c.phase = (s.conn j).phase ∨ c.disconnected = true) : Frm i s (s.setConn j c) := by
  refine ⟨rfl, by simp, ?_, ?_, ⟨rfl, rfl, rfl, rfl, rfl, rfl⟩⟩
  · intro h; rw [conn_setConn]; split
    · rename_i hh; rw [← hh.1] at h; exact hd h
    · exact h
  · rw [conn_setConn]; split
    · rename_i hh; rw [← hh.1]; exact hp
    · exact Or.inl rfl

/-- only the change to Established is reported -/
theorem setSt_of_ne (s : Sess) {v : St} (h : v ≠ .established) : s.setSt v = s.withSt v := by
  unfold setSt; rw [if_neg (fun c => h c.2)]

theorem frm_opens (i : Nat) : Opens (Frm i) where
  refl := Frm.refl i
  trans := Frm.trans
  tm _ _ _ := .of_same rfl rfl
  withSt _ _ := .of_same rfl rfl
  withRetryCounter _ _ := .of_same rfl rfl
  established _ := .of_same rfl rfl
  setDisconnected _ _ := .setConn_keep (fun _ => rfl) (.inl rfl)
  closing s j := by
    -- the phase of `j` changes, but `disconnected` is set in the same breath
    have e : (((s.setPhase j .closing).setDisconnected j).conn i) = s.conn i ∨
        (((s.setPhase j .closing).setDisconnected j).conn i).disconnected = true := by
      simp only [setDisconnected, setPhase, conn_setConn, len_setConn]
      by_cases h : j = i ∧ j < s.conns.length
      · rw [if_pos h]; exact .inr rfl
      · rw [if_neg h, if_neg h]; exact .inl rfl
    exact ⟨rfl, by simp [setPhase, setDisconnected], fun h => e.elim (fun k => k ▸ h) id,
      e.imp (congrArg Conn.phase) id, ⟨rfl, rfl, rfl, rfl, rfl, rfl⟩⟩
  lose _ _ := .of_same rfl rfl
  bumpSent _ _ _ := .setConn_keep id (.inl rfl)
  write _ _ _ _ := .of_same rfl rfl
  escaped _ := .of_same rfl rfl
  bumpRecv _ _ _ := .setConn_keep id (.inl rfl)
  note _ _ _ := .of_same rfl rfl
  withRemote _ _ := .of_same rfl rfl
  setAsn4 _ _ := .setConn_keep id (.inl rfl)
  withHoldTime _ _ := .of_same rfl rfl

theorem frm_setSt (i : Nat) (s : Sess) (v : St) : Frm i s (s.setSt v) := (frm_opens i).setSt s v
theorem frm_closeOn (i j : Nat) (s : Sess) : Frm i s (s.closeOn j) := (frm_opens i).closeOn s j
theorem frm_closeConn (i : Nat) (s : Sess) : Frm i s (s.closeConn) := (frm_opens i).closeConn s
theorem frm_errorClose (i : Nat) (s : Sess) : Frm i s (s.errorClose) := (frm_opens i).errorClose s
theorem frm_restartHold (i : Nat) (s : Sess) : Frm i s (s.restartHold) := (frm_opens i).restartHold s
theorem frm_sendNotification (i : Nat) (s : Sess) (e sub : Nat) (d : Bytes) : Frm i s (s.sendNotification e sub d) :=
  (frm_opens i).sendNotification s e sub d
theorem frm_sendKeepalive (i : Nat) (s : Sess) : Frm i s (s.sendKeepalive) := (frm_opens i).sendKeepalive s
theorem frm_headerError (i : Nat) (s : Sess) (sub : Nat) (d : Bytes) : Frm i s (s.headerError sub d) :=
  (frm_opens i).headerError s sub d
theorem frm_openMessageError (i : Nat) (s : Sess) (sub : Nat) : Frm i s (s.openMessageError sub) :=
  (frm_opens i).openMessageError s sub
theorem frm_dispatch (U : Bool → Bytes → UpdClass) (i j : Nat) (s : Sess) (ty : Nat) (body : Bytes) :
    Frm i s (dispatch U s j ty body).1 := (frm_opens i).dispatch U s j ty body

structure Tracked (s : Sess) (i : Nat) : Prop where
  proto : s.proto = some i
  lt : i < s.conns.length
  live : (s.conn i).phase = .connected ∨ (s.conn i).disconnected = true

theorem Tracked.of_frm {s s' : Sess} {i : Nat} (h : Tracked s i) (f : Frm i s s') : Tracked s' i := by
  refine ⟨f.proto.trans h.proto, by rw [f.len]; exact h.lt, ?_⟩
  rcases f.phase with hp | hd
  · rcases h.live with hl | hl
    · exact Or.inl (hp.trans hl)
    · exact Or.inr (f.mono hl)
  · exact Or.inr hd

theorem closeConn_disc {s : Sess} {i : Nat} (h : Tracked s i) : ((s.closeConn).conn i).disconnected = true := by
  unfold closeConn
  rw [h.proto]
  simp only
  have hself : ∀ (t : Sess), i < t.conns.length → ((t.setDisconnected i).conn i).disconnected = true := by
    intro t ht
    simp only [setDisconnected, conn_setConn]
    simp [ht]
  have key : ((s.closeOn i).conn i).disconnected = true := by
    unfold closeOn
    split
    · exact ((frm_opens i).lose _ _).mono (hself (s.setPhase i .closing) (by simp [setPhase]; exact h.lt))
    · split
      · exact hself s h.lt
      · rename_i h1 h2
        rcases h.live with hl | hl
        · exact absurd hl h1
        · exact hl
  exact ((frm_opens i).withRetryCounter (s.closeOn i) 0).mono key

theorem errorClose_disc {s : Sess} {i : Nat} (h : Tracked s i) : ((s.errorClose).conn i).disconnected = true := by
  unfold errorClose
  have h1 : Tracked (s.withTm { retry := none, hold := none, keepalive := none, idleHold := some s.idleDeadline }) i :=
    h.of_frm (.of_same rfl rfl)
  have h2 := closeConn_disc h1
  exact (frm_setSt i _ _).mono (((frm_opens i).withRetryCounter _ _).mono h2)

theorem headerError_disc {s : Sess} {i : Nat} (h : Tracked s i) (sub : Nat) (d : Bytes) :
    ((s.headerError sub d).conn i).disconnected = true :=
  errorClose_disc (h.of_frm (frm_sendNotification i s _ _ _))

theorem openMessageError_disc {s : Sess} {i : Nat} (h : Tracked s i) (sub : Nat) :
    ((s.openMessageError sub).conn i).disconnected = true :=
  errorClose_disc (h.of_frm (frm_sendNotification i s _ _ _))

theorem dispatch_false_disc (U : Bool → Bytes → UpdClass) {s : Sess} {i : Nat} (h : Tracked s i)
    (ty : Nat) (body : Bytes) (hf : (dispatch U s i ty body).2 = false) :
    ((dispatch U s i ty body).1.conn i).disconnected = true := by
  have hb : ∀ g, Tracked (s.bumpRecv i g) i := fun g => h.of_frm ((frm_opens i).bumpRecv s i g)
  have caps : ∀ (m : OpenMsg) t, t = ((s.bumpRecv i incOpens).withRemote m.caps).setAsn4 i ∨
      t = (s.bumpRecv i incOpens).withRemote m.caps → Tracked t i := by
    rintro m t (rfl | rfl)
    · exact (hb _).of_frm (((frm_opens i).withRemote _ _).trans ((frm_opens i).setAsn4 _ i))
    · exact (hb _).of_frm ((frm_opens i).withRemote _ _)
  revert hf
  -- every branch that returns False ends in `_error_close` on the tracked connection
  refine dispatch_elim (P := fun r => r.2 = false → (r.1.conn i).disconnected = true) U s i ty body ?_
    (fun _ k => nomatch k) (fun _ k => nomatch k) (fun _ k => nomatch k) (fun _ k => nomatch k) (fun _ _ k => nomatch k)
    (fun _ _ _ _ _ k => nomatch k) (fun _ k => nomatch k)
    (fun _ _ => headerError_disc ((hb _).of_frm ((frm_opens i).note _ _ rfl)) _ _)
    (fun _ k => nomatch k) (fun _ _ _ _ k => nomatch k) (fun _ _ _ _ _ k => nomatch k)
  exact fun _ => openReceived_elim (P := fun r => r.2 = false → (r.1.conn i).disconnected = true) s i body
    (fun _ _ _ => headerError_disc (hb _) _ _) (fun _ _ _ => openMessageError_disc (hb _) _) (fun k => nomatch k)
    (fun _ => openMessageError_disc (hb _) _)
    fun m => openAccepted_elim (P := fun r => r.2 = false → (r.1.conn i).disconnected = true) _ i m
      (fun t ht _ => openMessageError_disc (caps m t ht) _) (fun _ _ k => nomatch k)

theorem getD_append_left (a b : Bytes) (k : Nat) (h : k < a.length) : (a ++ b).getD k 0 = a.getD k 0 := by
  simp [List.getD_eq_getElem?_getD, List.getElem?_append_left h]

theorem frameLen_append (a b : Bytes) (h : 19 ≤ a.length) : frameLen (a ++ b) = frameLen a := by
  unfold frameLen
  rw [getD_append_left a b 16 (by omega), getD_append_left a b 17 (by omega)]

theorem headOf_append (a b : Bytes) (h : headOf a ≠ .short) : headOf (a ++ b) = headOf a := by
  unfold headOf at h ⊢
  by_cases h1 : a.length < C.hdrLen
  · simp [h1] at h
  · have h19 : 19 ≤ a.length := by simp [C.hdrLen] at h1; omega
    have hl : ¬ (a ++ b).length < C.hdrLen := by simp [C.hdrLen]; omega
    have ht : (a ++ b).take 16 = a.take 16 := List.take_append_of_le_length (by omega)
    rw [if_neg h1] at h
    rw [if_neg hl, if_neg h1, ht, frameLen_append a b h19]
    by_cases h2 : a.take 16 ≠ marker
    · rw [if_pos h2, if_pos h2]
    · rw [if_neg h2, if_neg h2]; rw [if_neg h2] at h
      by_cases h3 : frameLen a < C.hdrLen ∨ frameLen a > C.maxLen
      · rw [if_pos h3, if_pos h3]
      · rw [if_neg h3, if_neg h3]; rw [if_neg h3] at h
        by_cases h4 : a.length < frameLen a
        · rw [if_pos h4] at h; exact absurd rfl h
        · rw [if_neg h4]
          have h5 : ¬ (a ++ b).length < frameLen a := by simp; omega
          rw [if_neg h5, getD_append_left a b 18 (by omega)]
          rw [List.take_append_of_le_length (by omega)]

theorem headOf_frame {buf : Bytes} {ty len : Nat} {body : Bytes} (h : headOf buf = .frame ty body len) :
    19 ≤ len ∧ len ≤ 4096 ∧ len ≤ buf.length := by
  unfold headOf at h
  split at h
  · simp at h
  · split at h
    · simp at h
    · split at h
      · simp at h
      · split at h
        · simp at h
        · rename_i h1 h2 h3 h4
          simp only [Head.frame.injEq] at h
          simp only [C.hdrLen, C.maxLen, not_or, Nat.not_lt, gt_iff_lt] at h3 h4
          rw [← h.2.2]; omega

theorem parseBuffer_some {U : Bool → Bytes → UpdClass} {s : Sess} {i : Nat} {buf rest : Bytes}
    (h : (parseBuffer U s i buf).2 = some rest) : rest.length + 19 ≤ buf.length := by
  revert h
  refine parseBuffer_elim (P := fun r => r.2 = some rest → rest.length + 19 ≤ buf.length) U s i buf
    (fun _ k => nomatch k) (fun _ k => nomatch k) (fun _ k => nomatch k) (fun _ _ k => nomatch k) ?_
    (fun _ _ _ _ _ _ k => nomatch k)
  intro ty body len _ hh _ k
  have := headOf_frame hh
  rw [← Option.some.inj k, List.length_drop]
  omega

/-- Every iteration that goes on uses one unit of fuel and at least 19 octets, so the induction is on the fuel alone. -/
theorem drain_fuel (U : Bool → Bytes → UpdClass) (i : Nat) :
    ∀ (f1 f2 : Nat) (s : Sess) (buf : Bytes), buf.length / 19 < f1 → buf.length / 19 < f2 →
      drain U f1 s i buf = drain U f2 s i buf := by
  intro f1
  induction f1 with
  | zero => intro f2 s buf h1; omega
  | succ f1 ih =>
    intro f2 s buf h1 h2
    obtain ⟨f2, rfl⟩ : ∃ k, f2 = k + 1 := ⟨f2 - 1, by omega⟩
    simp only [drain]
    cases hp : (parseBuffer U s i buf).2 with
    | none => rfl
    | some rest =>
      have := parseBuffer_some hp
      exact ih f2 _ rest (by omega) (by omega)

theorem parseBuffer_frm (U : Bool → Bytes → UpdClass) (s : Sess) (i : Nat) (buf : Bytes) :
    Frm i s (parseBuffer U s i buf).1 := (frm_opens i).parseBuffer U s i buf

/-- on the tracked connection, whenever parse_buffer returns False for a reason other than "need more
    bytes", the connection has been closed by us, so nothing further will be parsed from it -/
theorem parseBuffer_none_disc (U : Bool → Bytes → UpdClass) {s : Sess} {i : Nat} (h : Tracked s i)
    (buf : Bytes) (hn : (parseBuffer U s i buf).2 = none) (hs : headOf buf ≠ .short) :
    ((parseBuffer U s i buf).1.conn i).disconnected = true := by
  revert hn
  exact parseBuffer_elim (P := fun r => r.2 = none → (r.1.conn i).disconnected = true) U s i buf
    (fun hd _ => hd) (fun hh => absurd hh hs) (fun _ _ => headerError_disc h _ _) (fun _ _ _ => headerError_disc h _ _)
    (fun _ _ _ _ _ _ k => nomatch k) (fun ty body _ _ _ ht _ => dispatch_false_disc U h ty body (by simpa using ht))

theorem drain_stuck (U : Bool → Bytes → UpdClass) {s : Sess} {i : Nat} {buf : Bytes}
    (h : parseBuffer U s i buf = (s, none)) (f : Nat) : drain U f s i buf = (s, buf) := by
  cases f with
  | zero => rfl
  | succ f => simp only [drain, h]

theorem parseBuffer_short (U : Bool → Bytes → UpdClass) (s : Sess) (i : Nat) {buf : Bytes} (h : headOf buf = .short) :
    parseBuffer U s i buf = (s, none) := by
  unfold parseBuffer
  rw [h]
  split <;> rfl

theorem parseBuffer_disc_noop (U : Bool → Bytes → UpdClass) (s : Sess) (i : Nat) (buf : Bytes)
    (h : (s.conn i).disconnected = true) : parseBuffer U s i buf = (s, none) := by
  unfold parseBuffer; rw [if_pos h]

theorem drain_disc_noop (U : Bool → Bytes → UpdClass) (s : Sess) (i : Nat) (buf : Bytes) (f : Nat)
    (h : (s.conn i).disconnected = true) : drain U f s i buf = (s, buf) :=
  drain_stuck U (parseBuffer_disc_noop U s i buf h) f

theorem parseBuffer_append (U : Bool → Bytes → UpdClass) (s : Sess) (i : Nat) (buf more : Bytes)
    (hd : ¬ (s.conn i).disconnected = true) (hs : headOf buf ≠ .short) :
    parseBuffer U s i (buf ++ more) = ((parseBuffer U s i buf).1, (parseBuffer U s i buf).2.map (· ++ more)) := by
  unfold parseBuffer
  rw [if_neg hd, if_neg hd, headOf_append buf more hs]
  cases hh : headOf buf with
  | short => exact absurd hh hs
  | badMarker => rfl
  | badLength len => rfl
  | frame ty body len =>
    dsimp only
    split
    · rw [List.drop_append_of_le_length (headOf_frame hh).2.2]; rfl
    · rfl

theorem drain_append_fuel (U : Bool → Bytes → UpdClass) (i : Nat) (more : Bytes) :
    ∀ (f1 : Nat) (s : Sess) (buf : Bytes) (f2 f3 : Nat), Tracked s i →
      buf.length / 19 < f1 → (buf ++ more).length / 19 < f2 → (buf ++ more).length / 19 < f3 →
      drain U f2 s i (buf ++ more) =
        drain U f3 (drain U f1 s i buf).1 i ((drain U f1 s i buf).2 ++ more) := by
  intro f1
  induction f1 with
  | zero => intro s buf f2 f3 _ h1; omega
  | succ f1 ih =>
    intro s buf f2 f3 ht h1 h2 h3
    by_cases hst : parseBuffer U s i buf = (s, none)
    · -- nothing consumed from `buf` alone: only the budget differs
      rw [drain_stuck U hst]
      exact drain_fuel U i f2 f3 s _ h2 h3
    · have hd : ¬ (s.conn i).disconnected = true := fun hd => hst (parseBuffer_disc_noop U s i buf hd)
      have hs : headOf buf ≠ .short := fun hs => hst (parseBuffer_short U s i hs)
      obtain ⟨f2, rfl⟩ : ∃ k, f2 = k + 1 := ⟨f2 - 1, by omega⟩
      simp only [drain, parseBuffer_append U s i buf more hd hs]
      cases hp : (parseBuffer U s i buf).2 with
      -- `parse_buffer` said False on a head that is not short: the tracked connection has been closed (this is what
      -- `Tracked` is assumed for), and on a closed connection the second feed does nothing
      | none => exact (drain_disc_noop U _ i _ f3 (parseBuffer_none_disc U ht buf hp hs)).symm
      | some rest =>
        have hlen := parseBuffer_some hp
        have hl : (rest ++ more).length + 19 ≤ (buf ++ more).length := by
          rw [List.length_append, List.length_append]; omega
        exact ih _ rest f2 f3 (ht.of_frm (parseBuffer_frm U s i buf)) (by omega) (by omega) (by omega)

/-- the incremental law of the deframer: feeding `buf ++ more` at once is feeding `buf`, then the
    unconsumed rest of it followed by `more` — on the connection the state machine tracks -/
theorem drain_append (U : Bool → Bytes → UpdClass) (i : Nat) (more : Bytes) :
    ∀ (n : Nat) (s : Sess) (buf : Bytes) (f1 f2 f3 : Nat), buf.length ≤ n → Tracked s i →
      buf.length / 19 < f1 → (buf ++ more).length / 19 < f2 → (buf ++ more).length / 19 < f3 →
      drain U f2 s i (buf ++ more) =
        drain U f3 (drain U f1 s i buf).1 i ((drain U f1 s i buf).2 ++ more) :=
  fun _ s buf f1 f2 f3 _ => drain_append_fuel U i more f1 s buf f2 f3

theorem drain_snd_le (U : Bool → Bytes → UpdClass) (i : Nat) :
    ∀ (f : Nat) (s : Sess) (buf : Bytes), (drain U f s i buf).2.length ≤ buf.length := by
  intro f
  induction f with
  | zero => intro s buf; simp [drain]
  | succ f ih =>
    intro s buf
    simp only [drain]
    cases hp : (parseBuffer U s i buf).2 with
    | none => simp
    | some rest =>
      have := parseBuffer_some hp
      have := ih (parseBuffer U s i buf).1 rest
      simp only
      omega

theorem drain_frm (U : Bool → Bytes → UpdClass) (i : Nat) (f : Nat) (s : Sess) (buf : Bytes) : Frm i s (drain U f s i buf).1 :=
  (frm_opens i).drain U i f s buf

end Sess
end Yabgp
