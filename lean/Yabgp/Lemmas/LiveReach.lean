/-
  Liveness half of C02: the package `ReachInv cfg w` of everything the liveness proof uses about a reachable state of the
  world (session state + receive buffers), shown to hold after the agent's first start and to be kept by every event the
  environment can produce:

    Core.Skel         (Lemmas/Skel.lean: never stuck / at most one live connection / attempts remembered / in Connect
                      some connection is live; `skel_step`, `skel_first`)
    TB, BI            (Lemmas/LiveEvo.lean: idle-hold deadline within one period; BGP identifier unset or the configured one)
    cfg, caps         (Props/C05.lean: the configuration never changes, capabilities are only ever dropped)
    RB                (here: a connection whose receive buffer is not empty exists and is not a pending attempt)
-/
import Yabgp.Lemmas.Skel
import Yabgp.Lemmas.LiveEvo
import Yabgp.Lemmas.LiveOpen

namespace Yabgp
open Sess

variable (U : Bool → Bytes → UpdClass)

def RB (w : World) : Prop := ∀ j, w.rbuf j ≠ [] → j < w.sess.conns.length ∧ (w.sess.conn j).phase ≠ .connecting

structure ReachInv (cfg : Cfg) (w : World) : Prop extends Core.Skel (core w.sess) where
  tb : TB w.sess
  bi : BI w.sess
  hcfg : w.sess.cfg = cfg
  caps : CapsLe w.sess.localCaps cfg.caps0
  rb : RB w

theorem cl_step (w : World) (e : Ev) (hen : enabled w.sess e = true)
    (h : Core.One (core w.sess)) (hp : Core.Pend (core w.sess)) (hh : Core.Heal (core w.sess)) (hc : Core.CL (core w.sess)) :
    Core.CL (core (step U w e).sess) :=
  (skel_step U w e hen ⟨hh, h, hp, hc⟩).cl

theorem rb_step (w : World) (e : Ev) (hen : enabled w.sess e = true) (h : RB w) : RB (step U w e) := by
  have hev := evo_step U w e
  have key : ∀ j, j < w.sess.conns.length → (w.sess.conn j).phase ≠ .connecting →
      j < (step U w e).sess.conns.length ∧ ((step U w e).sess.conn j).phase ≠ .connecting :=
    fun j hj hp => ⟨Nat.lt_of_lt_of_le hj hev.len, hev.phase j hj hp⟩
  intro j hj
  by_cases hr : (step U w e).rbuf j = w.rbuf j
  · rw [hr] at hj
    obtain ⟨a, b⟩ := h j hj
    exact key j a b
  · -- only the arrival of data changes a receive buffer, and only that of a connection that is up
    cases e
    case chunk c d =>
      have hjc : j = c := Classical.byContradiction fun hne => hr (by simp [step, setRbuf, hne])
      subst hjc
      simp only [enabled, decide_eq_true_eq] at hen
      exact key j hen.1 (by rw [hen.2]; simp)
    case fire t => cases t <;> exact absurd rfl hr
    all_goals exact absurd rfl hr

theorem reach_step {cfg : Cfg} (w : World) (e : Ev) (hen : enabled w.sess e = true) (h : ReachInv cfg w) :
    ReachInv cfg (step U w e) :=
  have hev := evo_step U w e
  have hc := step_caps_le U w e
  ⟨skel_step U w e hen h.toSkel, hev.tb h.tb, hev.bi h.bi, hc.2.trans h.hcfg, hc.1.trans h.caps, rb_step U w e hen h.rb⟩

theorem reach_run {cfg : Cfg} (evs : List Ev) : ∀ (w : World), ReachInv cfg w → EnabledRun U w evs → ReachInv cfg (run U w evs) :=
  run_induction U (Q := fun w evs => ReachInv cfg (run U w evs)) (reach_step U) (fun _ h => h) (fun _ _ _ _ _ h => h) evs

theorem reach_first (cfg : Cfg) (e0 : Ev) (he0 : e0 = .boot ∨ e0 = .manualStart) : ReachInv cfg (step U (bootWorld cfg) e0) := by
  have hev := evo_step U (bootWorld cfg) e0
  have hc := C05_only_configured_capabilities U cfg [e0]
  have hen : enabled (bootWorld cfg).sess e0 = true := by rcases he0 with rfl | rfl <;> rfl
  refine ⟨skel_first U cfg e0 he0, hev.tb ?_, hev.bi (Or.inl rfl), hc.2, hc.1, rb_step U _ e0 hen ?_⟩
  · intro d hd
    simp [bootWorld, boot] at hd
  · intro j hj
    simp [bootWorld] at hj

theorem reach_of_run (cfg : Cfg) (e0 : Ev) (he0 : e0 = .boot ∨ e0 = .manualStart) (evs : List Ev)
    (hen : EnabledRun U (step U (bootWorld cfg) e0) evs) : ReachInv cfg (run U (bootWorld cfg) (e0 :: evs)) :=
  reach_run U evs _ (reach_first U cfg e0 he0) hen

theorem reach_openWire {cfg : Cfg} {w : World} (hR : ReachInv cfg w)
    (hcfg : ∃ w0, constructOpen 4 cfg.localAs cfg.holdCfg cfg.localId cfg.caps0 = some w0) :
    ∃ wr, constructOpen 4 w.sess.cfg.localAs w.sess.cfg.holdCfg (w.sess.bgpId.getD w.sess.cfg.localId)
      (negotiateCaps w.sess.localCaps w.sess.remote) = some wr := by
  obtain ⟨w0, h0⟩ := hcfg
  have hid : w.sess.bgpId.getD w.sess.cfg.localId = cfg.localId := by
    rcases hR.bi with h | h
    · rw [h, hR.hcfg]; rfl
    · rw [h, hR.hcfg]; rfl
  rw [hid, hR.hcfg]
  exact constructOpen_le _ _ _ ((negotiateCaps_le _ _).trans hR.caps) h0

end Yabgp
