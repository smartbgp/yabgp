/-
  What the actions of Model/Session.lean do to the FSM state and the timers, said once: `Move` for every action outside
  the framing loop, `Frame` for one call of `parse_buffer`, `drain_rel` to carry a relation over the whole loop.
-/
import Yabgp.Lemmas.TmLemmas

namespace Yabgp
namespace Sess

variable (U : Bool → Bytes → UpdClass)

theorem drain_rel {R : Sess → Sess → Prop} (i : Nat) (refl : ∀ s, R s s) (trans : ∀ {a b c}, R a b → R b c → R a c)
    (one : ∀ s buf, R s (parseBuffer U s i buf).1) : ∀ (f : Nat) (s : Sess) (buf : Bytes), R s (drain U f s i buf).1
  | 0, s, _ => refl s
  | f + 1, s, buf => by
    simp only [drain]
    cases (parseBuffer U s i buf).2 with
    | none => exact one s buf
    | some rest => exact trans (one s buf) (drain_rel i refl trans one f _ rest)

attribute [local simp] withConns withProto withEstab withBgpId withAllow withLocalCaps withOuts withNow setPhase
  setDisconnected

theorem sendOpen_fields (s : Sess) : s.sendOpen.1.st = s.st ∧ s.sendOpen.1.tm = s.tm ∧ s.sendOpen.1.now = s.now ∧
    s.sendOpen.1.holdTime = s.holdTime := by
  unfold sendOpen
  split
  · simp
  · split <;> simp

end Sess
open Sess

/-- no session is up or being set up: the states in which neither session timer may run -/
def Resting (q : St) : Prop := q = .idle ∨ q = .connect ∨ q = .active

theorem Resting.ne {q : St} (h : Resting q) : q ≠ .openSent ∧ q ≠ .openConfirm ∧ q ≠ .established := by
  rcases h with rfl | rfl | rfl <;> decide

/-- nothing a session looks at has changed -/
structure Fixed (s s' : Sess) : Prop where
  st : s'.st = s.st
  holdTime : s'.holdTime = s.holdTime
  now : s'.now = s.now
  hold : s'.tm.hold = s.tm.hold
  ka : s'.tm.keepalive = s.tm.keepalive
  retry : s'.tm.retry = s.tm.retry
  idle : s.tm.idleHold = none → s'.tm.idleHold = none

/-- the action ends in Idle, Connect or Active, and each session timer was stopped or was already not allowed to run -/
structure Ended (s s' : Sess) : Prop where
  st : Resting s'.st
  hold : s'.tm.hold = none ∨ Resting s.st ∧ s'.tm.hold = s.tm.hold
  ka : s'.tm.keepalive = none ∨ (Resting s.st ∨ s.st = .openSent) ∧ s'.tm.keepalive = s.tm.keepalive

/-- every action except a connection coming up, the keepalive expiry, a clock advance and a frame that opens or
    refreshes the session -/
inductive Move (s s' : Sess) : Prop
  | fixed (h : Fixed s s')
  | ended (h : Ended s s')

theorem Move.same {s s' : Sess} (h1 : s'.st = s.st) (h2 : s'.tm = s.tm) (h3 : s'.holdTime = s.holdTime)
    (h4 : s'.now = s.now) : Move s s' :=
  .fixed ⟨h1, h3, h4, by rw [h2], by rw [h2], by rw [h2], by rw [h2]; exact id⟩

theorem Move.refl (s : Sess) : Move s s := Move.same rfl rfl rfl rfl

theorem Ended.stopped {s s' : Sess} (h : Resting s'.st) (h1 : s'.tm.hold = none) (h2 : s'.tm.keepalive = none) : Ended s s' :=
  ⟨h, Or.inl h1, Or.inl h2⟩

theorem Ended.rest {s s' : Sess} (h : Resting s.st) (h' : Resting s'.st) (h1 : s'.tm.hold = s.tm.hold)
    (h2 : s'.tm.keepalive = s.tm.keepalive) : Ended s s' :=
  ⟨h', Or.inr ⟨h, h1⟩, Or.inr ⟨Or.inl h, h2⟩⟩

theorem Move.congr {s t u : Sess} (h : Move t u) (h1 : t.st = s.st) (h2 : t.tm = s.tm) (h3 : t.holdTime = s.holdTime)
    (h4 : t.now = s.now) : Move s u := by
  rcases h with f | e
  · exact .fixed ⟨f.st.trans h1, f.holdTime.trans h3, f.now.trans h4, by rw [← h2]; exact f.hold, by rw [← h2]; exact f.ka,
      by rw [← h2]; exact f.retry, by rw [← h2]; exact f.idle⟩
  · exact .ended ⟨e.st, by rw [← h1, ← h2]; exact e.hold, by rw [← h1, ← h2]; exact e.ka⟩

theorem Move.trans {a b c : Sess} (h1 : Move a b) (h2 : Move b c) : Move a c := by
  -- `ended` absorbs `fixed` on either side; of two `ended`, a timer the second kept because the state was resting
  -- already is what the first left of it
  rcases h1 with f | e <;> rcases h2 with g | d
  · exact .fixed ⟨g.st.trans f.st, g.holdTime.trans f.holdTime, g.now.trans f.now, g.hold.trans f.hold, g.ka.trans f.ka,
      g.retry.trans f.retry, fun h => g.idle (f.idle h)⟩
  · exact .ended ⟨d.st, by rw [← f.st, ← f.hold]; exact d.hold, by rw [← f.st, ← f.ka]; exact d.ka⟩
  · exact .ended ⟨by rw [g.st]; exact e.st, by rw [g.hold]; exact e.hold, by rw [g.ka]; exact e.ka⟩
  · refine .ended ⟨d.st, ?_, ?_⟩
    · rcases d.hold with h | ⟨_, h⟩
      · exact Or.inl h
      · rw [h]; exact e.hold
    · rcases d.ka with h | ⟨_, h⟩
      · exact Or.inl h
      · rw [h]; exact e.ka

attribute [local simp] withConns withProto withEstab withBgpId withAllow withLocalCaps withOuts withNow setPhase
  setDisconnected

@[simp] theorem resting_idle : Resting .idle := Or.inl rfl
@[simp] theorem resting_connect : Resting .connect := Or.inr (Or.inl rfl)
@[simp] theorem resting_active : Resting .active := Or.inr (Or.inr rfl)

theorem move_errorClose (s : Sess) : Move s s.errorClose := .ended (.stopped (by simp) (by simp) (by simp))

theorem move_autoStart (s : Sess) (b : Bool) : Move s (s.autoStart b) := by
  unfold autoStart
  split
  · rename_i hs
    split
    · exact .ended (.rest (Or.inl hs) (by simp [hs]) (by simp) (by simp))
    · split
      · exact .ended (.rest (Or.inl hs) (by simp) (by simp) (by simp))
      · exact Move.refl s
  · exact Move.refl s

/-- BGPPeering.connection_closed resets the FSM state to Idle without stopping a timer: harmless when the protocol that
    closed is not the established one, or no session was up -/
theorem move_dropEstab (s : Sess) (p : Option Nat) (h : s.estab = p → Resting s.st) : Move s (s.dropEstab p) := by
  unfold dropEstab
  split
  · split
    · rename_i he; exact .ended (.rest (h he) (by simp) (by simp) (by simp))
    · exact Move.refl s
  · exact Move.refl s

theorem move_connectionClosed (s : Sess) (p : Option Nat) (h : s.estab = p → Resting s.st) :
    Move s (s.connectionClosed p) := by
  unfold connectionClosed
  split
  · exact (move_dropEstab s p h).trans (move_autoStart _ _)
  · exact move_dropEstab s p h

theorem move_connectionFailed (s : Sess) : Move s s.connectionFailed := by
  unfold connectionFailed
  split
  · rename_i hs
    exact Move.trans (.ended (.rest (Or.inr (Or.inl hs)) (by simp) (by simp) (by simp)))
      (move_connectionClosed _ _ fun _ => by simp)
  · rename_i hs
    exact .ended (.rest (Or.inr (Or.inr hs)) (by simp) (by simp) (by simp))
  · rename_i hs
    exact Move.trans (.ended ⟨by simp, Or.inl (by simp), Or.inr ⟨Or.inr hs, by simp⟩⟩)
      (move_connectionClosed _ _ fun _ => by simp)
  · exact move_errorClose s
  · exact move_errorClose s
  · exact Move.refl s

theorem move_manualStart (s : Sess) : Move s s.manualStart := by
  unfold manualStart
  split
  · exact Move.same rfl rfl rfl rfl
  · rename_i hs
    exact .ended (.rest (Or.inl hs) (by simp) (by simp) (by simp))
  · exact Move.same rfl rfl rfl rfl

theorem move_manualStop (s : Sess) : Move s s.manualStop := by
  unfold manualStop
  exact .ended (.stopped (by simp) (by simp) (by simp))

theorem move_connFail (s : Sess) (i : Nat) : Move s (s.connFail i) := by
  unfold connFail
  split
  · refine (move_connectionFailed _).congr ?_ ?_ ?_ ?_ <;> simp
  · exact Move.same rfl rfl rfl rfl

theorem move_connLost (s : Sess) (i : Nat) (h : (s.conn i).disconnected = true → s.estab = some i → Resting s.st) :
    Move s (s.connLost i) := by
  unfold connLost
  split
  · rename_i hd
    refine (move_connectionClosed ((s.setPhase i .closed).emit (.hConnLost i)) _ (h hd)).congr ?_ ?_ ?_ ?_ <;> simp
  · refine (move_connectionFailed _).congr ?_ ?_ ?_ ?_ <;> simp

theorem move_fireRetry (s : Sess) : Move s s.fireRetry := by
  unfold fireRetry
  split
  · rename_i hs
    exact .ended (.rest (Or.inr (Or.inl hs)) (by simp [hs]) (by simp) (by simp))
  · rename_i hs
    exact .ended (.rest (Or.inr (Or.inr hs)) (by simp [hs]) (by simp) (by simp))
  · rename_i hs
    exact .ended (.rest (Or.inl hs) (by simp [hs]) (by simp) (by simp))
  · exact .ended (.stopped (by simp) (by simp) (by simp))

theorem move_fireHold (s : Sess) : Move s s.fireHold := by
  unfold fireHold
  split
  iterate 5 exact .ended (.stopped (by simp) (by simp) (by simp))
  rename_i hs
  exact .ended ⟨by simp [hs], Or.inl (by simp), Or.inr ⟨Or.inl (Or.inl hs), by simp⟩⟩

theorem move_fireIdleHold (s : Sess) : Move s s.fireIdleHold := by
  have h : Move s (s.setIdleHold none) := .fixed ⟨rfl, rfl, rfl, rfl, rfl, rfl, fun _ => rfl⟩
  unfold fireIdleHold
  split
  · exact h.trans (move_autoStart _ _)
  · exact h

/-- how the hand-over of a KEEPALIVE or an UPDATE (well-formed or not) to the FSM is reported to the application -/
def Arrival (o : Out) : Prop := (∃ c, o = .hKeepalive c) ∨ (∃ c a b, o = .hUpdate c a b) ∨ (∃ c b, o = .hUpdateError c b)

inductive Frame (s s' : Sess) : Prop
  /-- counted, reported or skipped; not an FSM event -/
  | skip (st : s'.st = s.st) (tm : s'.tm = s.tm) (holdTime : s'.holdTime = s.holdTime) (now : s'.now = s.now)
      (outs : ∃ l, s'.outs = s.outs ++ l)
  | ended (h : Ended s s')
  /-- the peer's OPEN accepted in OpenSent: both session timers are set from the hold time just negotiated -/
  | opened (h : s.st = .openSent) (st : s'.st = .openConfirm) (now : s'.now = s.now)
      (ka : s'.tm.keepalive = if 0 < s'.holdTime then some (s.now + s'.holdTime) else none)
      (hold : s'.tm.hold = if 0 < s'.holdTime then some (s.now + 3 * s'.holdTime) else none)
  /-- a KEEPALIVE or an UPDATE in a session: reported, and the hold timer restarted (if there is a hold time) -/
  | restarted (h : s.st = .openConfirm ∨ s.st = .established) (st : s'.st = .established) (holdTime : s'.holdTime = s.holdTime)
      (now : s'.now = s.now) (ka : s'.tm.keepalive = s.tm.keepalive)
      (hold : s'.tm.hold = if s.holdTime ≠ 0 then some (s.now + 3 * s.holdTime) else s.tm.hold)
      (outs : ∃ l, s'.outs = s.outs ++ l) (arr : ∃ o ∈ s'.outs, Arrival o)

theorem Frame.congr {s t u : Sess} (h : Frame t u) (h1 : t.st = s.st) (h2 : t.tm = s.tm) (h3 : t.holdTime = s.holdTime)
    (h4 : t.now = s.now) (h5 : ∃ l, t.outs = s.outs ++ l) : Frame s u := by
  obtain ⟨l, h5⟩ := h5
  have ho : (∃ m, u.outs = t.outs ++ m) → ∃ m, u.outs = s.outs ++ m := fun ⟨m, e⟩ => ⟨l ++ m, by rw [e, h5, List.append_assoc]⟩
  cases h with
  | skip a b c d e => exact .skip (a.trans h1) (b.trans h2) (c.trans h3) (d.trans h4) (ho e)
  | ended e => exact .ended ⟨e.st, h1 ▸ h2 ▸ e.hold, h1 ▸ h2 ▸ e.ka⟩
  | opened a b c d e => exact .opened (h1 ▸ a) b (c.trans h4) (h4 ▸ d) (h4 ▸ e)
  | restarted a b c d e f g k =>
    exact .restarted (h1 ▸ a) b (c.trans h3) (d.trans h4) (h2 ▸ e) (h2 ▸ h3 ▸ h4 ▸ f) (ho g) k

theorem Frame.refl (s : Sess) : Frame s s := .skip rfl rfl rfl rfl ⟨[], (List.append_nil _).symm⟩

/-- `_error_close`, with or without a NOTIFICATION before it -/
theorem Frame.errorClose (s t : Sess) : Frame s t.errorClose := .ended (.stopped (by simp) (by simp) (by simp))

theorem outs_setSt (t : Sess) (v : St) : ∃ l, (t.setSt v).outs = t.outs ++ l := by
  unfold setSt
  split
  · exact ⟨[_], rfl⟩
  · exact ⟨[], (List.append_nil _).symm⟩

@[simp] theorem outs_restartHold (t : Sess) : t.restartHold.outs = t.outs := by
  unfold restartHold; split <;> rfl

theorem restartHold_fields (t : Sess) : t.restartHold.tm.keepalive = t.tm.keepalive ∧
    t.restartHold.tm.hold = if t.holdTime ≠ 0 then some (t.now + 3 * t.holdTime) else t.tm.hold := by
  unfold restartHold
  split <;> simp [holdTicks]

theorem Frame.restart {t u : Sess} (hs : t.st = .openConfirm ∨ t.st = .established) (ha : ∃ o ∈ t.outs, Arrival o)
    (h1 : u.st = .established) (h2 : u.tm = t.restartHold.tm) (h3 : u.holdTime = t.holdTime) (h4 : u.now = t.now)
    (h5 : ∃ l, u.outs = t.outs ++ l) : Frame t u := by
  obtain ⟨o, ho, hA⟩ := ha
  refine .restarted hs h1 h3 h4 (h2 ▸ (restartHold_fields t).1) (h2 ▸ (restartHold_fields t).2) h5 ⟨o, ?_, hA⟩
  obtain ⟨l, e⟩ := h5
  rw [e]
  exact List.mem_append_left l ho

theorem frame_fsmKeepaliveReceived (t : Sess) (ha : ∃ o ∈ t.outs, Arrival o) : Frame t t.fsmKeepaliveReceived := by
  unfold fsmKeepaliveReceived
  split
  · rename_i hs
    exact .restart (Or.inl hs) ha (by simp) (by simp) (by simp) (by simp) (by simpa using outs_setSt t.restartHold .established)
  · rename_i hs
    exact .restart (Or.inr hs) ha (by simpa using hs) rfl (by simp) (by simp) ⟨[], by simp⟩
  iterate 3 exact .errorClose ..
  exact .refl t

theorem frame_fsmUpdateReceived (t : Sess) (ha : ∃ o ∈ t.outs, Arrival o) : Frame t t.fsmUpdateReceived := by
  unfold fsmUpdateReceived
  split
  · rename_i hs
    exact .restart (Or.inr hs) ha (by simpa using hs) rfl (by simp) (by simp) ⟨[], by simp⟩
  iterate 4 exact .errorClose ..
  exact .refl t

/-- NOTIFICATION received: for "unsupported version number" in OpenSent / OpenConfirm the FSM goes to Idle without
    `_error_close` and stops both timers itself -/
theorem frame_fsmNotificationReceived (t : Sess) (e sub : Nat) : Frame t (t.fsmNotificationReceived e sub) := by
  unfold fsmNotificationReceived
  split
  · split
    iterate 2 exact .ended (.stopped (by simp) (by simp) (by simp))
    iterate 3 exact .errorClose ..
    exact .refl t
  · split
    · exact .errorClose ..
    · exact .refl t

/-- FSM.open_received in `t`, which the handling of the OPEN so far has made of `s` (a new hold time included) -/
theorem frame_fsmOpenReceived {s t : Sess} (h1 : t.st = s.st) (h2 : t.tm = s.tm) (h4 : t.now = s.now) (o : Out) :
    Frame s (t.fsmOpenReceived.emit o) := by
  have stop (u : Sess) : Frame s (u.errorClose.emit o) := .ended (.stopped (by simp) (by simp) (by simp))
  unfold fsmOpenReceived
  split
  · exact stop _
  · exact stop _
  · rename_i hs
    split <;> rename_i hh <;>
      exact .opened (h1 ▸ hs) (by simp) (by simp [h4]) (by simp [hh, kaTicks, h4]) (by simp [hh, holdTicks, h4])
  · exact stop _
  · exact stop _
  · rename_i hs
    exact .ended (.rest (h1 ▸ Or.inl hs) (by simp [hs]) (by simp [h2]) (by simp [h2]))

section
variable (U : Bool → Bytes → UpdClass)

theorem frame_dispatch (s : Sess) (i ty : Nat) (body : Bytes) : Frame s (dispatch U s i ty body).1 := by
  have bump g : Frame s (s.bumpRecv i g) := .skip rfl rfl rfl rfl ⟨[], (List.append_nil _).symm⟩
  -- a handler runs after the message was counted and reported
  have seen {g o u} (h : Frame ((s.bumpRecv i g).emit o) u) : Frame s u := h.congr rfl rfl rfl rfl ⟨[o], rfl⟩
  have upd o (ho : Arrival o) : Frame s ((s.bumpRecv i incUpdates).emit o).fsmUpdateReceived :=
    seen (frame_fsmUpdateReceived _ ⟨o, by simp [Sess.emit], ho⟩)
  refine dispatch_cases (P := fun r => Frame s r.1) ?_ (bump _) (seen (.refl _)) (upd _ (.inr (.inr ⟨_, _, rfl⟩)))
    (upd _ (.inr (.inl ⟨_, _, _, rfl⟩))) (.refl s) (fun _ _ _ => seen (frame_fsmNotificationReceived ..))
    (seen (frame_fsmKeepaliveReceived _ ⟨.hKeepalive i, by simp [Sess.emit], .inl ⟨_, rfl⟩⟩)) (.errorClose ..) (bump _)
    (fun _ _ _ => seen (.refl _)) (.errorClose ..)
  refine openReceived_cases (P := fun r => Frame s r.1) (fun _ => .errorClose ..) (fun _ => .errorClose ..) (bump _) fun m =>
    openAccepted_cases (P := fun r => Frame s r.1) fun t ht => ⟨.errorClose .., ?_⟩
  rcases ht with rfl | rfl <;> refine frame_fsmOpenReceived ?_ ?_ ?_ _ <;> simp

theorem frame_parseBuffer (s : Sess) (i : Nat) (buf : Bytes) : Frame s (parseBuffer U s i buf).1 :=
  parseBuffer_cases (P := fun r => Frame s r.1) (.refl s) (.errorClose ..) (fun _ => .errorClose ..)
    fun ty body _ => frame_dispatch U s i ty body

end

/-- the keepalive timer is restarted `holdTime` ticks ahead: a third of the hold time, which is `3 * holdTime` ticks -/
theorem fireKeepalive_cases (s : Sess) :
    Ended s s.fireKeepalive ∨
      s.fireKeepalive.st = s.st ∧ s.fireKeepalive.holdTime = s.holdTime ∧ s.fireKeepalive.now = s.now ∧
      s.fireKeepalive.tm.hold = s.tm.hold ∧ s.fireKeepalive.tm.retry = s.tm.retry ∧
      s.fireKeepalive.tm.idleHold = s.tm.idleHold ∧
      s.fireKeepalive.tm.keepalive =
        if (s.st = .openConfirm ∨ s.st = .established) ∧ 0 < s.holdTime then some (s.now + s.holdTime) else none := by
  unfold fireKeepalive
  split
  · rename_i hs
    split <;> rename_i hh <;> exact Or.inr (by simp [hs, hh, kaTicks])
  · rename_i hs
    split <;> rename_i hh <;> exact Or.inr (by simp [hs, hh, kaTicks])
  · exact Or.inl ⟨by simp, Or.inl (by simp), Or.inl (by simp)⟩
  · exact Or.inl ⟨by simp, Or.inl (by simp), Or.inl (by simp)⟩
  · rename_i h1 h2 _ _
    have : ¬ (s.st = .openConfirm ∨ s.st = .established) := fun h => h.elim h1 h2
    exact Or.inr (by simp [this])

theorem connOk_cases (s : Sess) (c : Nat) :
    (s.connOk c).holdTime = s.holdTime ∧ (s.connOk c).now = s.now ∧ (s.connOk c).tm.keepalive = s.tm.keepalive ∧
    (s.connOk c).tm.retry = none ∧ (s.connOk c).tm.idleHold = none ∧
    ((s.connOk c).st = .openSent ∧ (s.connOk c).tm.hold = some (s.now + 3 * C.largeHoldTime) ∨
      (s.connOk c).st = .connect ∧ (s.connOk c).tm.hold = s.tm.hold) := by
  unfold connOk connectionMade
  split <;> simp [sendOpen_fields]

theorem Move.weak {s s' : Sess} (h : Move s s') : Fixed s s' ∨ Resting s'.st := by
  rcases h with f | e
  · exact Or.inl f
  · exact Or.inr e.st

@[simp] theorem st_autoStart_true (s : Sess) : (s.autoStart true).st = s.st := by
  unfold autoStart; split <;> simp

/-- without the hypothesis of `move_connLost` the state may be reset to Idle with the timers running -/
theorem weak_connLost (s : Sess) (i : Nat) : Fixed s (s.connLost i) ∨ Resting (s.connLost i).st := by
  by_cases h : (s.conn i).disconnected = true ∧ s.estab = some i
  · have hi : (((s.setPhase i .closed).emit (.hConnLost i)).dropEstab (some i)).st = .idle := by
      simp [dropEstab, emit, setConn, h.2]
    right
    unfold connLost connectionClosed
    rw [if_pos h.1]
    split <;> simp only [st_autoStart_true, hi, resting_idle]
  · exact (move_connLost s i fun hd he => absurd ⟨hd, he⟩ h).weak

variable (U : Bool → Bytes → UpdClass)

theorem move_step (w : World) (e : Ev) (hc : ∀ c, e ≠ .connOk c) (hk : e ≠ .fire .keepalive) (hd : ∀ c d, e ≠ .chunk c d)
    (ha : ∀ dt, e ≠ .advance dt)
    (hl : ∀ c, e = .lost c → (w.sess.conn c).disconnected = true → w.sess.estab = some c → Resting w.sess.st) :
    Move w.sess (step U w e).sess := by
  refine Move.congr (t := w.sess.withOuts []) ?_ rfl rfl rfl rfl
  cases e with
  | boot => exact move_autoStart _ _
  | manualStart => exact move_manualStart _
  | manualStop => exact move_manualStop _
  | connOk c => exact absurd rfl (hc c)
  | connFail c => exact move_connFail _ c
  | chunk c d => exact absurd rfl (hd c d)
  | lost c => exact move_connLost _ c (hl c rfl)
  | advance dt => exact absurd rfl (ha dt)
  | fire t =>
    cases t with
    | retry => exact move_fireRetry _
    | hold => exact move_fireHold _
    | keepalive => exact absurd rfl hk
    | idleHold => exact move_fireIdleHold _

theorem weak_step (w : World) (e : Ev) (hc : ∀ c, e ≠ .connOk c) (hk : e ≠ .fire .keepalive) (hd : ∀ c d, e ≠ .chunk c d)
    (ha : ∀ dt, e ≠ .advance dt) : Fixed w.sess (step U w e).sess ∨ Resting (step U w e).sess.st := by
  cases e with
  | lost c =>
    exact (weak_connLost (w.sess.withOuts []) c).imp (fun f => ⟨f.st, f.holdTime, f.now, f.hold, f.ka, f.retry, f.idle⟩) id
  | _ => exact (move_step U w _ hc hk hd ha fun c h => nomatch h).weak

end Yabgp
