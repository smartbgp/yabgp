/-
  A per-connection observable that does not depend on the phase, the `disconnected` flag or the counters of a
  connection is untouched by everything the FSM does in reaction to a message, except by the explicit `setAsn4`.
-/
import Yabgp.Lemmas.Framing
import Yabgp.Lemmas.Ext

namespace Yabgp
namespace Sess

structure Indep {α : Type} (f : Conn → α) : Prop where
  phase : ∀ (c : Conn) (p : Phase), f { c with phase := p } = f c
  disc : ∀ (c : Conn) (b : Bool), f { c with disconnected := b } = f c
  sent : ∀ (c : Conn) (x : Stats), f { c with sent := x } = f c

/-- additionally independent of the receive counters (needed at the dispatch level only) -/
def IndepRecv {α : Type} (f : Conn → α) : Prop := ∀ (c : Conn) (x : Stats), f { c with recv := x } = f c

section
variable {α : Type} (f : Conn → α)
theorem keeps_withHoldTime (s : Sess) (v : Nat) : Keeps f s (s.withHoldTime v) := Keeps.of_same rfl
theorem keeps_withRemote (s : Sess) (v : CapaDict) : Keeps f s (s.withRemote v) := Keeps.of_same rfl
end

section
variable {α : Type} {f : Conn → α} (hf : Indep f)
include hf

theorem Indep.sends : Sends (Keeps f) where
  refl := Keeps.refl f
  trans := Keeps.trans
  tm _ _ _ := .of_same rfl
  withSt _ _ := .of_same rfl
  withRetryCounter _ _ := .of_same rfl
  established _ := .of_same rfl
  setDisconnected _ _ := .setConn (hf.disc _ _)
  closing _ _ := (Keeps.setConn (hf.phase _ _)).trans (.setConn (hf.disc _ _))
  lose _ _ := .of_same rfl
  bumpSent _ _ _ := .setConn (hf.sent _ _)
  write _ _ _ _ := .of_same rfl
  escaped _ := .of_same rfl

theorem Indep.recvs (hr : IndepRecv f) : Recvs (Keeps f) where
  toSends := hf.sends
  bumpRecv _ _ _ := .setConn (hr _ _)
  note _ _ _ := .of_same rfl

theorem keeps_dispatch_nonOpen (hr : IndepRecv f) (U : Bool → Bytes → UpdClass) (s : Sess) (i ty : Nat) (body : Bytes)
    (hty : ty ≠ C.msgOpen) : Keeps f s (dispatch U s i ty body).1 :=
  (hf.recvs hr).dispatch U s i ty body fun h => absurd h hty

end

theorem indep_asn4 : Indep (fun c : Conn => c.asn4) := ⟨fun _ _ => rfl, fun _ _ => rfl, fun _ _ => rfl⟩
theorem indepRecv_asn4 : IndepRecv (fun c : Conn => c.asn4) := fun _ _ => rfl
theorem indep_recv : Indep (fun c : Conn => c.recv) := ⟨fun _ _ => rfl, fun _ _ => rfl, fun _ _ => rfl⟩

end Sess
end Yabgp
