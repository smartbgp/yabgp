/-
  C08 for the tunnel-encapsulation constructor model (Model/Construct/Tunnel.lean): lemmas relating it to the
  walker's grammar of the attribute (tunnel TLV → sub-TLVs → segment sub-TLVs).
-/
import Yabgp.Lemmas.WalkerLemmas
import Yabgp.Model.Construct.Tunnel

namespace Yabgp.Walker
open Yabgp.Tunnel

theorem packI_length (n : Nat) (b : Bytes) (h : packI n = some b) : b.length = 4 := by
  unfold packI at h; split at h <;> simp at h; subst h; simp

theorem packB_length (n : Nat) (b : Bytes) (h : packB n = some b) : b.length = 1 := by
  unfold packB at h; split at h <;> simp at h; subst h; simp

theorem packed4_length (a : Mp.Ip) (b : Bytes) (h : packed4 a = some b) : b.length = 4 := by
  cases a with
  | v4 n => exact packI_length n b h
  | v6 n => simp [packed4] at h

theorem packed6_length (a : Mp.Ip) (b : Bytes) (h : packed6 a = some b) : b.length = 16 := by
  cases a with
  | v4 n => simp [packed6] at h
  | v6 n => simp only [packed6] at h; split at h <;> simp at h; subst h; simp

theorem optSid_length (s : Option Sid) (b : Bytes) (h : optSid s = some b) : b.length = 0 ∨ b.length = 4 := by
  cases s with
  | none => simp [optSid] at h; subst h; simp
  | some x => exact Or.inr (packI_length _ b h)

/-- every segment sub-TLV is type, length, two reserved octets, fields of fixed size and an optional SID -/
theorem seq_constructSeg (s : Seg) (b : Bytes) (h : constructSeg s = some b) : Seq (tlv11 segmentOk) b := by
  unfold constructSeg at h
  split at h
  · simp only [Option.map_eq_some_iff] at h
    obtain ⟨v, hv, rfl⟩ := h
    have hl := packI_length _ v hv
    have := seq_tlv11 segmentOk 1 6 ([0, 0] ++ v) (by decide) (by simp [hl]) (by decide) (by simp [segmentOk, hl])
    simpa [u8] using this
  · split at h
    · rename_i n v hn hv
      cases h
      have h1 := packed4_length _ n hn
      have h2 := optSid_length _ v hv
      have := seq_tlv11 segmentOk 3 (6 + v.length) ([0, 0] ++ n ++ v) (by decide) (by simp [h1]; omega) (by omega)
        (by rcases h2 with e | e <;> simp [segmentOk, h1, e])
      simpa [u8] using this
    · cases h
  · split at h
    · rename_i i n v hi hn hv
      cases h
      have h0 := packI_length _ i hi
      have h1 := packed4_length _ n hn
      have h2 := optSid_length _ v hv
      have := seq_tlv11 segmentOk 5 (10 + v.length) ([0, 0] ++ i ++ n ++ v) (by decide) (by simp [h0, h1]; omega)
        (by omega) (by rcases h2 with e | e <;> simp [segmentOk, h0, h1, e])
      simpa [u8] using this
    · cases h
  · split at h
    · rename_i l r v hl hr hv
      cases h
      have h0 := packed4_length _ l hl
      have h1 := packed4_length _ r hr
      have h2 := optSid_length _ v hv
      have := seq_tlv11 segmentOk 6 (10 + v.length) ([0, 0] ++ l ++ r ++ v) (by decide) (by simp [h0, h1]; omega)
        (by omega) (by rcases h2 with e | e <;> simp [segmentOk, h0, h1, e])
      simpa [u8] using this
    · cases h
  · cases h; exact Seq.nil _

theorem constructSegs_eq : constructSegs = Mp.encAll constructSeg := by
  funext ss
  induction ss with
  | nil => rfl
  | cons s r ih => simp only [constructSegs, Mp.encAll, ih]; rfl

theorem seq_constructWeight (w : Option Nat) (b : Bytes) (h : constructWeight w = some b) :
    Seq (tlv11 segmentOk) b := by
  unfold constructWeight at h
  split at h
  · cases h; exact Seq.nil _
  · simp only [Option.map_eq_some_iff] at h
    obtain ⟨v, hv, rfl⟩ := h
    have hl := packI_length _ v hv
    have := seq_tlv11 segmentOk 9 6 ([0, 0] ++ v) (by decide) (by simp [hl]) (by decide) (by simp [segmentOk, hl])
    simpa [u8] using this

abbrev SubSeq (b : Bytes) : Prop := Seq (subTlv srPolicySubOk) b

/-- segment list: type 128, 2-octet length, reserved octet, weight and segment sub-TLVs -/
theorem seq_constructSegList (l : SegList) (b : Bytes) (h : constructSegList l = some b) : SubSeq b := by
  unfold constructSegList at h
  split at h
  · cases h
  · rename_i ss _
    split at h
    · rename_i w s hw hg
      simp only [Option.ite_none_right_eq_some, Option.some.injEq] at h
      obtain ⟨hlen, rfl⟩ := h
      have hall : all (tlv11 segmentOk) (w ++ s) = true :=
        ((seq_constructWeight l.weight w hw).append
          (encAll_seq _ ss (fun x _ => seq_constructSeg x) s (constructSegs_eq ▸ hg))).all
      have := seq_sub_long srPolicySubOk 128 (w.length + s.length + 1) ([0] ++ w ++ s) (by decide) (by decide)
        (by simp) hlen (by simp [srPolicySubOk, hall])
      simpa [u8] using this
    · cases h

theorem constructSegLists_eq : constructSegLists = Mp.encAll constructSegList := by
  funext ls
  induction ls with
  | nil => rfl
  | cons l r ih => simp only [constructSegLists, Mp.encAll, ih]; rfl

theorem seq_sub6 (ty v : Nat) (b : Bytes) (hty : ty = 6 ∨ ty = 7 ∨ ty = 12 ∨ ty = 13) (h : sub6 ty v = some b) :
    SubSeq b := by
  simp only [sub6, Option.map_eq_some_iff] at h
  obtain ⟨x, hv, rfl⟩ := h
  have hl := packI_length _ x hv
  have := seq_sub_short srPolicySubOk ty 6 ([0, 0] ++ x) (by omega) (by simp [hl]) (by decide)
    (by rcases hty with rfl | rfl | rfl | rfl <;> simp [srPolicySubOk, hl])
  simpa [u8] using this

theorem seq_bindingSid (ty : Nat) (p : Policy) (b : Bytes) (hty : ty = 7 ∨ ty = 13) (h : bindingSid ty p = some b) :
    SubSeq b := by
  unfold bindingSid at h
  have hty' : ty = 6 ∨ ty = 7 ∨ ty = 12 ∨ ty = 13 := by omega
  split at h
  · exact seq_sub6 ty _ b hty' h
  · split at h
    · exact seq_sub6 ty _ b hty' h
    · cases h
      have := seq_sub_short srPolicySubOk ty 2 [0, 0] (by omega) rfl (by decide)
        (by rcases hty with rfl | rfl <;> decide)
      simpa [u8] using this

theorem seq_oldBlock (p : Policy) (b : Bytes) (h : oldBlock p = some b) : SubSeq b := by
  unfold oldBlock at h
  simp only at h
  split at h
  · rename_i a bs ha hb
    cases h
    refine Seq.append ?_ (seq_bindingSid 7 p bs (Or.inl rfl) hb)
    split at ha
    · exact seq_sub6 6 _ a (Or.inl rfl) ha
    · cases ha
    · split at ha
      · exact seq_sub6 6 _ a (Or.inl rfl) ha
      · cases ha; exact Seq.nil _
  · cases h

theorem seq_remoteEndpoint (k : K6) (b : Bytes) (h : remoteEndpoint k = some b) : SubSeq b := by
  unfold remoteEndpoint at h
  split at h
  · cases h
  · split at h
    · split at h
      · rename_i a x ha hx
        cases h
        have h1 := packI_length _ a ha
        have h2 := packed4_length _ x hx
        have := seq_sub_short srPolicySubOk 6 10 (a ++ be16 1 ++ x) (by decide) (by simp [h1, h2]) (by decide)
          (by simp [srPolicySubOk, h1, h2])
        simpa [u8, List.append_assoc] using this
      · cases h
    · split at h
      · rename_i a x ha hx
        cases h
        have h1 := packI_length _ a ha
        have h2 := packed6_length _ x hx
        have := seq_sub_short srPolicySubOk 6 22 (a ++ be16 2 ++ x) (by decide) (by simp [h1, h2]) (by decide)
          (by simp [srPolicySubOk, h1, h2])
        simpa [u8, List.append_assoc] using this
      · cases h
    · cases h

/-- an optional one-octet value in the frame `f` (ENLP 14, priority 15) -/
theorem seq_optB (o : Option Nat) (f : Bytes → Bytes) (b : Bytes) (hf : ∀ x : Bytes, x.length = 1 → SubSeq (f x))
    (h : optB o f = some b) : SubSeq b := by
  unfold optB at h
  split at h
  · cases h; exact Seq.nil _
  · simp only [Option.map_eq_some_iff] at h
    obtain ⟨x, hv, rfl⟩ := h
    exact hf x (packB_length _ x hv)

theorem seq_newBlock (p : Policy) (b : Bytes) (h : newBlock p = some b) : SubSeq b := by
  unfold newBlock at h
  simp only at h
  split at h
  · rename_i a bs c d e f h1 h2 h3 h4 h5 h6
    cases h
    have ha : SubSeq a := by
      split at h1
      · cases h1; exact Seq.nil _
      · split at h1
        · exact seq_sub6 12 _ a (by omega) h1
        · cases h1; exact Seq.nil _
    have he : SubSeq e := by
      split at h5
      · cases h5; exact Seq.nil _
      · rename_i n _
        simp only [Option.ite_none_right_eq_some, Option.some.injEq] at h5
        obtain ⟨hlen, rfl⟩ := h5
        have := seq_sub_long srPolicySubOk 129 (n.length + 1) ([0] ++ n) (by decide) (by decide) (by simp) hlen
          (by simp [srPolicySubOk])
        simpa [u8] using this
    have hf : SubSeq f := by
      split at h6
      · cases h6; exact Seq.nil _
      · exact seq_remoteEndpoint _ f h6
    have hc : SubSeq c := seq_optB p.k14 _ c (fun x hx => by
      have := seq_sub_short srPolicySubOk 14 3 ([0, 0] ++ x) (by decide) (by simp [hx]) (by decide)
        (by simp [srPolicySubOk, hx])
      simpa [u8] using this) h3
    have hd : SubSeq d := seq_optB p.k15 _ d (fun x hx => by
      have := seq_sub_short srPolicySubOk 15 2 (x ++ [0]) (by decide) (by simp [hx]) (by decide)
        (by simp [srPolicySubOk, hx])
      simpa [u8] using this) h4
    exact ((((ha.append (seq_bindingSid 13 p bs (Or.inr rfl) h2)).append hc).append hd).append he).append hf
  · cases h

theorem seq_policyValue (p : Policy) (v : Bytes) (h : policyValue p = some v) : SubSeq v := by
  unfold policyValue at h
  split at h
  · rename_i a s hb hs
    cases h
    have ha : SubSeq a := by
      unfold encBlock at hb
      split at hb
      · exact seq_oldBlock p a hb
      · exact seq_newBlock p a hb
      · cases hb
    have hss : SubSeq s := by
      unfold segBlock at hs
      split at hs
      · cases hs; exact Seq.nil _
      · exact encAll_seq _ _ (fun l _ => seq_constructSegList l) s (constructSegLists_eq ▸ hs)
    split
    · exact hss.append ha
    · exact ha.append hss
  · cases h

end Yabgp.Walker
