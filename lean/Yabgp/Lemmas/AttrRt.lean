/-
  Path attributes: the decoders of Model/Update.lean by their equations.  (The value decoders on encoded values are in
  Lemmas/RefRt.lean.)
-/
import Yabgp.Lemmas.Basic
import Yabgp.Model.Update

namespace Yabgp

def SegOk (asn4 : Bool) (s : Nat × List Nat) : Prop :=
  1 ≤ s.1 ∧ s.1 ≤ 4 ∧ s.2.length < 256 ∧ ∀ x ∈ s.2, asnOk asn4 x = true

theorem encSegment_ok {asn4 : Bool} {s : Nat × List Nat} (h : SegOk asn4 s) :
    encSegment asn4 s = some (be8 s.1 ++ be8 s.2.length ++ encAsns asn4 s.2) := by
  obtain ⟨h1, h2, h3, h4⟩ := h
  unfold encSegment
  rw [if_pos]
  refine ⟨by omega, h3, ?_⟩
  simpa [List.all_eq_true] using h4

theorem parseAsPath_cons (asn4 : Bool) (t n : UInt8) (rest : Bytes) :
    parseAsPath asn4 (t :: n :: rest) =
      if t.toNat < 1 ∨ 4 < t.toNat then .error (.upd C.eMalformedAsPath)
      else if rest.length < n.toNat * asWidth asn4 then .error (.upd C.eAttrLen)
      else
        match parseAsPath asn4 (rest.drop (n.toNat * asWidth asn4)) with
        | .ok segs => .ok ((t.toNat, decAsns asn4 n.toNat rest) :: segs)
        | .error e => .error e := by
  conv => lhs; rw [parseAsPath]
  split
  · rfl
  · split
    · rfl
    · split <;> simp_all

/-- an attribute header with a 1-octet (`ext = false`) or 2-octet length, bit 4 of the flags saying which -/
theorem splitAttr_hdr (f c : Nat) (ext : Bool) (body rest : Bytes) (hf : f < 256) (hc : c < 256)
    (hfe : f / 16 % 2 = if ext then 1 else 0) (hl : body.length < if ext then 65536 else 256) :
    splitAttr ([u8 f, u8 c] ++ (if ext then be16 body.length else [u8 body.length]) ++ body ++ rest) =
      some (f, c, body, rest) := by
  cases ext
  · simp only [Bool.false_eq_true, ↓reduceIte, List.cons_append, List.nil_append, splitAttr] at hfe hl ⊢
    rw [u8_toNat hf, u8_toNat hc, u8_toNat hl, if_neg (by omega), List.take_left' rfl, List.drop_left' rfl]
  · simp only [↓reduceIte, List.cons_append, List.nil_append, splitAttr, List.append_assoc] at hfe hl ⊢
    rw [u8_toNat hf, u8_toNat hc, if_pos hfe, rd16_be16 hl]
    simp only [List.take_left' rfl, List.drop_left' rfl]

def AttrOk (asn4 : Bool) (code : Nat) : AttrVal → Prop
  | .origin n => code = 1 ∧ n ≤ 2
  | .asPath segs => code = 2 ∧ ∀ s ∈ segs, SegOk asn4 s
  | .nextHop ip => code = 3 ∧ ip < 4294967296
  | .med n => code = 4 ∧ n < 4294967296
  | .localPref n => code = 5 ∧ n < 4294967296
  | .atomicAgg => code = 6
  | .aggregator a ip => code = 7 ∧ asnOk asn4 a = true ∧ ip < 4294967296
  | .community cs => code = 8 ∧ ∀ c ∈ cs, c < 4294967296
  | .originatorId ip => code = 9 ∧ ip < 4294967296
  | .clusterList ips => code = 10 ∧ ∀ c ∈ ips, c < 4294967296
  | .largeCommunity xs => code = 32 ∧ ∀ t ∈ xs, t.1 < 4294967296 ∧ t.2.1 < 4294967296 ∧ t.2.2 < 4294967296
  | .raw _ => False
  | .unmodelled _ => False

theorem triples_words (xs : List (Nat × Nat × Nat))
    (h : ∀ t ∈ xs, t.1 < 4294967296 ∧ t.2.1 < 4294967296 ∧ t.2.2 < 4294967296) :
    triples (words32 (xs.flatMap fun t => be32 t.1 ++ be32 t.2.1 ++ be32 t.2.2)) = xs := by
  induction xs with
  | nil => rfl
  | cons x r ih =>
    obtain ⟨h1, h2, h3⟩ := h x (by simp)
    have hr := ih (fun y hy => h y (by simp [hy]))
    rw [List.flatMap_cons, List.append_assoc, List.append_assoc]
    rw [words32_be32_append h1, words32_be32_append h2, words32_be32_append h3]
    simp only [triples]
    rw [hr]

theorem triples_flat_length (xs : List (Nat × Nat × Nat)) :
    (xs.flatMap fun t => be32 t.1 ++ be32 t.2.1 ++ be32 t.2.2).length = 12 * xs.length := by
  induction xs with
  | nil => rfl
  | cons x r ih => simp only [List.flatMap_cons, List.length_append, be32_length, ih, List.length_cons]; omega

/-- `parseAttrValue` with the type codes written out: on a literal code, `simp` picks the decoder -/
theorem parseAttrValue_code (a : Bool) (code : Nat) (v : Bytes) :
    parseAttrValue a code v =
      if code = 1 then parseOrigin v
      else if code = 2 then (parseAsPath a v).map .asPath
      else if code = 3 then parseNextHop v
      else if code = 4 then (parseU32 v).map .med
      else if code = 5 then (parseU32 v).map .localPref
      else if code = 6 then parseAtomicAgg v
      else if code = 7 then parseAggregator a v
      else if code = 8 then parseCommunity v
      else if code = 9 then parseOriginatorId v
      else if code = 10 then parseClusterList v
      else if code = 17 then (parseAsPath true v).map .asPath
      else if code = 18 then parseAggregator true v
      else if code = 32 then parseLargeCommunity v
      else if code ∈ otherModelCodes then .ok (.unmodelled code)
      else .ok (.raw v) := rfl

theorem parseAttrLoop_nil (asn4 : Bool) (acc : List (Nat × AttrVal)) :
    parseAttrLoop asn4 acc [] = (acc, none) := by
  rw [parseAttrLoop]

theorem parseAttrLoop_unfold (asn4 : Bool) (acc : List (Nat × AttrVal)) (b : Bytes) (hb : b ≠ []) :
    parseAttrLoop asn4 acc b =
      match splitAttr b with
      | none => (acc, some C.eMalformedAttrList)
      | some (_, t, v, r) =>
        match parseAttrValue asn4 t v with
        | .error (.upd s) => (acc, some s)
        | .error .other => (acc, some C.eMalformedAttrList)
        | .ok val => parseAttrLoop asn4 (dictSet acc t val) r := by
  cases b with
  | nil => exact absurd rfl hb
  | cons x xs =>
    conv => lhs; rw [parseAttrLoop]
    split <;> rename_i h <;> simp only [h]
    all_goals (split <;> simp_all)

def keys (d : List (Nat × AttrVal)) : List Nat := d.map (·.1)

theorem dictSet_fresh (d : List (Nat × AttrVal)) (k : Nat) (v : AttrVal) (h : k ∉ keys d) :
    dictSet d k v = d ++ [(k, v)] := by
  induction d with
  | nil => rfl
  | cons e r ih =>
    obtain ⟨k', v'⟩ := e
    simp only [keys, List.map_cons, List.mem_cons, not_or] at h
    simp only [dictSet]
    rw [if_neg (fun hh => h.1 hh.symm)]
    rw [ih (by simpa [keys] using h.2)]
    rfl

theorem splitAttr_nonempty {b : Bytes} {x : Nat × Nat × Bytes × Bytes} (h : splitAttr b = some x) : b ≠ [] := by
  intro hb; subst hb; simp [splitAttr] at h

end Yabgp
