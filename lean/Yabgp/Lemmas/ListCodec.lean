/-
  List codecs.  Every NLRI list decoder reads one element and goes on with what is left; `decode_flatMap` and
  `decode_encAll` say once what follows from that, for any decoder of this shape (EVPN routes, flow specifications).
  The `while data:` loop `many` of the other families has a stop test that looks at all the data left, so what an
  element decodes to depends on what follows it (`NoStop`); its lemmas are the second half.
-/
import Yabgp.Model.Mp.Common

namespace Yabgp

section Shape
variable {F : Type → Type} [Functor F] [LawfulFunctor F] {α β γ : Type}

/-- Round trip (`rest = []`) and compositionality in one statement.  `F` is `Option` or `Except ε`. -/
theorem decode_flatMap (dec : List γ → F (List β)) (enc : α → List γ) (f : α → β) (xs : List α)
    (h : ∀ x ∈ xs, ∀ r, dec (enc x ++ r) = (f x :: ·) <$> dec r) (rest : List γ) :
    dec (xs.flatMap enc ++ rest) = (xs.map f ++ ·) <$> dec rest := by
  induction xs with
  | nil => exact (id_map _).symm
  | cons x xs ih =>
    rw [List.flatMap_cons, List.append_assoc, h x List.mem_cons_self, ih fun y hy => h y (List.mem_cons_of_mem _ hy),
      ← comp_map]
    rfl  -- `(f x :: ·) ∘ (xs.map f ++ ·)` unfolds to `((x :: xs).map f ++ ·)`

theorem decode_encAll (dec : Bytes → F (List α)) (enc : α → Option Bytes) (len : α → Nat) (xs : List α)
    (h : ∀ x ∈ xs, ∃ e, enc x = some e ∧ e.length = len x ∧ ∀ r, dec (e ++ r) = (x :: ·) <$> dec r) :
    ∃ w, Mp.encAll enc xs = some w ∧ w.length = (xs.map len).sum ∧
      ∀ rest, dec (w ++ rest) = (xs ++ ·) <$> dec rest := by
  induction xs with
  | nil => exact ⟨[], rfl, rfl, fun rest => (id_map _).symm⟩
  | cons x xs ih =>
    obtain ⟨e, he, hl, hd⟩ := h x List.mem_cons_self
    obtain ⟨w, hw, hwl, hwd⟩ := ih fun y hy => h y (List.mem_cons_of_mem _ hy)
    refine ⟨e ++ w, by rw [Mp.encAll, he, hw], by rw [List.length_append, hl, hwl]; rfl, fun rest => ?_⟩
    rw [List.append_assoc, hd, hwd, ← comp_map]
    rfl

end Shape

end Yabgp

namespace Yabgp.Mp

section Many
variable {α : Type} (stop : Bytes → Bool) (step : Bytes → R (α × Bytes))
  (hstep : ∀ b x r, step b = .ok (x, r) → r.length < b.length)

theorem many_nil : many stop step hstep [] = .ok [] := by
  rw [many]

theorem many_cons (y : UInt8) (ys : Bytes) :
    many stop step hstep (y :: ys) =
      if stop (y :: ys) then .ok []
      else (step (y :: ys)).bind fun p => (many stop step hstep p.2).map (p.1 :: ·) := by
  conv => lhs; rw [many]
  split
  · rfl
  · split <;> rename_i h <;> simp only [h, Except.bind]
    cases many stop step hstep _ <;> rfl

/-- at no loop head inside the encoding of `xs` (followed by `rest`) does the stop test fire -/
def NoStop (enc : α → Option Bytes) : List α → Bytes → Prop
  | [], _ => True
  | x :: xs, rest => (∀ w, encAll enc (x :: xs) = some w → stop (w ++ rest) = false) ∧ NoStop enc xs rest

theorem noStop_const_false (enc : α → Option Bytes) (xs : List α) (rest : Bytes) :
    NoStop (fun _ => false) enc xs rest := by
  induction xs with
  | nil => trivial
  | cons x r ih => exact ⟨fun _ _ => rfl, ih⟩

theorem encAll_cons {enc : α → Option Bytes} {x : α} {xs : List α} {e w : Bytes}
    (he : enc x = some e) (hw : encAll enc xs = some w) : encAll enc (x :: xs) = some (e ++ w) := by
  rw [encAll, he, hw]

theorem encAll_cons_some {enc : α → Option Bytes} {x : α} {xs : List α} {w : Bytes}
    (h : encAll enc (x :: xs) = some w) :
    ∃ e w', enc x = some e ∧ encAll enc xs = some w' ∧ w = e ++ w' := by
  rw [encAll] at h
  split at h
  · rename_i e w' he hw'
    exact ⟨e, w', he, hw', (Option.some.inj h).symm⟩
  · cases h

theorem many_enc (enc : α → Option Bytes) (xs : List α) :
    ∀ (w rest : Bytes), encAll enc xs = some w →
      (∀ x ∈ xs, ∀ e, enc x = some e → e ≠ [] ∧ ∀ r, step (e ++ r) = .ok (x, r)) →
      NoStop stop enc xs rest →
      many stop step hstep (w ++ rest) = (many stop step hstep rest).map (xs ++ ·) := by
  induction xs with
  | nil =>
    intro w rest hw _ _
    cases hw
    rw [List.nil_append]
    cases many stop step hstep rest <;> rfl
  | cons x r ih =>
    intro w rest hw hel ⟨hs, hns⟩
    have hs' := hs w hw
    obtain ⟨e, w2, h1, h2, rfl⟩ := encAll_cons_some hw
    obtain ⟨hne, hst⟩ := hel x List.mem_cons_self e h1
    obtain ⟨y, ys, rfl⟩ := List.exists_cons_of_ne_nil hne
    have hst' := hst (w2 ++ rest)
    rw [List.append_assoc] at hs' ⊢
    rw [List.cons_append] at hs' hst' ⊢
    rw [many_cons, hs', hst']
    simp only [Bool.false_eq_true, ↓reduceIte, Except.bind]
    rw [ih w2 rest h2 (fun z hz => hel z (List.mem_cons_of_mem _ hz)) hns]
    cases many stop step hstep rest <;> rfl

theorem many_enc_all (enc : α → Option Bytes) (xs : List α) (w : Bytes) (hw : encAll enc xs = some w)
    (hel : ∀ x ∈ xs, ∀ e, enc x = some e → e ≠ [] ∧ ∀ r, step (e ++ r) = .ok (x, r))
    (hns : NoStop stop enc xs []) :
    many stop step hstep w = .ok xs := by
  have := many_enc stop step hstep enc xs w [] hw hel hns
  rwa [List.append_nil, many_nil, Except.map, List.append_nil] at this

def Elem (enc : α → Option Bytes) (x : α) : Prop :=
  ∃ e, enc x = some e ∧ e ≠ [] ∧ ∀ rest, step (e ++ rest) = .ok (x, rest)

/-- the form the hypotheses of `many_enc` have -/
theorem Elem.spec {step} {enc : α → Option Bytes} {x : α} (h : Elem step enc x) :
    ∀ e, enc x = some e → e ≠ [] ∧ ∀ r, step (e ++ r) = .ok (x, r) := by
  obtain ⟨e', h1, h2⟩ := h
  intro e he
  rw [h1] at he
  cases he
  exact h2

theorem many_concat (enc : α → Option Bytes) (xs ys : List α) (a b : Bytes)
    (ha : encAll enc xs = some a) (hb : encAll enc ys = some b)
    (hx : ∀ x ∈ xs, Elem step enc x) (hy : ∀ y ∈ ys, Elem step enc y)
    (hsx : NoStop stop enc xs []) (hsy : NoStop stop enc ys []) (hsxy : NoStop stop enc xs b) :
    many stop step hstep a = .ok xs ∧ many stop step hstep b = .ok ys ∧
      many stop step hstep (a ++ b) = .ok (xs ++ ys) := by
  have e2 := many_enc_all stop step hstep enc ys b hb (fun y h => (hy y h).spec) hsy
  refine ⟨many_enc_all stop step hstep enc xs a ha (fun x h => (hx x h).spec) hsx, e2, ?_⟩
  rw [many_enc stop step hstep enc xs a b ha (fun x h => (hx x h).spec) hsxy, e2]
  rfl

theorem encAll_elems (enc : α → Option Bytes) (xs : List α) (h : ∀ x ∈ xs, Elem step enc x) :
    ∃ w, encAll enc xs = some w ∧ xs.length ≤ w.length := by
  induction xs with
  | nil => exact ⟨[], rfl, Nat.le_refl _⟩
  | cons x r ih =>
    obtain ⟨e, he, hne, _⟩ := h x List.mem_cons_self
    obtain ⟨w, hw, hlen⟩ := ih (fun y hy => h y (List.mem_cons_of_mem _ hy))
    have := List.length_pos_iff.mpr hne
    exact ⟨e ++ w, encAll_cons he hw, by rw [List.length_append, List.length_cons]; omega⟩

theorem many_list (enc : α → Option Bytes) (xs : List α) (h : ∀ x ∈ xs, Elem step enc x)
    (hns : NoStop stop enc xs []) :
    ∃ w, encAll enc xs = some w ∧ (w = [] → xs = []) ∧ many stop step hstep w = .ok xs := by
  obtain ⟨w, hw, hlen⟩ := encAll_elems step enc xs h
  exact ⟨w, hw, fun hnil => List.eq_nil_of_length_eq_zero (Nat.le_zero.mp (by rwa [hnil] at hlen)),
    many_enc_all stop step hstep enc xs w hw (fun x hx => (h x hx).spec) hns⟩

theorem encAll_append (enc : α → Option Bytes) (xs ys : List α) (a b : Bytes)
    (ha : encAll enc xs = some a) (hb : encAll enc ys = some b) :
    encAll enc (xs ++ ys) = some (a ++ b) := by
  induction xs generalizing a with
  | nil => cases ha; exact hb
  | cons x r ih =>
    obtain ⟨e, w2, h1, h2, rfl⟩ := encAll_cons_some ha
    rw [List.cons_append, List.append_assoc]
    exact encAll_cons h1 (ih w2 h2)

end Many

end Yabgp.Mp
