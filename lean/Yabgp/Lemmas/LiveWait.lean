/-
  Liveness half of C02, the waiting period: Idle, automatic start allowed, idle-hold timer armed for `D`.  There is a
  schedule of clock ticks and expiries of the OTHER timers (in Idle a connect-retry, hold or keepalive timer left over from
  the previous session may still be armed; each of them only clears itself when it fires in Idle) after which the
  idle-hold timer is due, the state machine is still Idle with the same idle-hold timer, and no more time has passed than
  needed: `now' ≤ max now D`.
-/
import Yabgp.Lemmas.Run

namespace Yabgp
open Sess

variable (U : Bool → Bytes → UpdClass)

def otherArmed (tm : Timers) : Nat := tm.retry.isSome.toNat + tm.hold.isSome.toNat + tm.keepalive.isSome.toNat

structure IdleArmed (w : World) (D : Nat) : Prop where
  st : w.sess.st = .idle
  allow : w.sess.allowAuto = true
  ih : w.sess.tm.idleHold = some D

def WaitEv : Ev → Prop
  | .advance _ => True
  | .fire _ => True
  | _ => False

def WaitGoal (w : World) (D : Nat) : Prop :=
  ∃ evs, (∀ e ∈ evs, WaitEv e) ∧ EnabledRun U w evs ∧ IdleArmed (run U w evs) D ∧
    D ≤ (run U w evs).sess.now ∧ (run U w evs).sess.now ≤ max w.sess.now D

theorem fire_other (w : World) (hst : w.sess.st = .idle) (t : TimerId) (ht : t ≠ .idleHold) :
    (step U w (.fire t)).sess.st = .idle ∧ (step U w (.fire t)).sess.allowAuto = w.sess.allowAuto ∧
    (step U w (.fire t)).sess.now = w.sess.now ∧ (step U w (.fire t)).sess.tm.idleHold = w.sess.tm.idleHold ∧
    ((timerOf w.sess.tm t).isSome = true → otherArmed (step U w (.fire t)).sess.tm + 1 = otherArmed w.sess.tm) := by
  have hst0 : (w.sess.withOuts []).st = .idle := hst
  cases t with
  | idleHold => exact absurd rfl ht
  | retry | hold | keepalive =>
    simp only [step, fireRetry, fireHold, fireKeepalive, hst0]
    refine ⟨hst, rfl, rfl, rfl, fun h => ?_⟩
    simp only [timerOf] at h
    simp [otherArmed, setRetry, setHold, setKeepalive, withTm, withOuts, h]
    try omega

theorem mem_allTimers {tm : Timers} {d : Nat} (h : d ∈ allTimers tm) : ∃ t, timerOf tm t = some d := by
  simp only [allTimers, List.mem_append, Option.mem_toList] at h
  rcases h with ((h | h) | h) | h
  · exact ⟨.retry, h⟩
  · exact ⟨.hold, h⟩
  · exact ⟨.keepalive, h⟩
  · exact ⟨.idleHold, h⟩

theorem WaitGoal.step {w : World} {D : Nat} (e : Ev) (he : WaitEv e) (hen : enabled w.sess e = true)
    (hnow : (step U w e).sess.now ≤ max w.sess.now D) (h : WaitGoal U (step U w e) D) : WaitGoal U w D := by
  obtain ⟨evs, h1, h2, h3, h4, h5⟩ := h
  exact ⟨e :: evs, List.forall_mem_cons.mpr ⟨he, h1⟩, ⟨hen, h2⟩, h3, h4, by simp only [run]; omega⟩

/-- by induction on the ticks still to wait plus the number of left-over timers: a left-over timer that is due fires and
    clears itself, otherwise nothing is due and one tick passes -/
theorem wait_idle (D : Nat) : ∀ (n : Nat) (w : World), IdleArmed w D → (D - w.sess.now) + otherArmed w.sess.tm ≤ n →
    WaitGoal U w D := by
  have done : ∀ (w : World), IdleArmed w D → D ≤ w.sess.now → WaitGoal U w D :=
    fun w hI hD => ⟨[], nofun, trivial, hI, hD, Nat.le_max_left ..⟩
  intro n
  induction n with
  | zero => exact fun w hI hn => done w hI (by omega)
  | succ n ih =>
    intro w hI hn
    by_cases hD : D ≤ w.sess.now
    · exact done w hI hD
    by_cases hdue : ∃ t d, t ≠ TimerId.idleHold ∧ timerOf w.sess.tm t = some d ∧ d ≤ w.sess.now
    · obtain ⟨t, d, ht, hd, hle⟩ := hdue
      obtain ⟨h1, h2, h3, h4, h5⟩ := fire_other U w hI.st t ht
      have hs := h5 (by rw [hd]; rfl)
      exact .step U (.fire t) trivial (by simp [enabled, hd, hle]) (by rw [h3]; exact Nat.le_max_left ..)
        (ih _ ⟨h1, h2.trans hI.allow, h4.trans hI.ih⟩ (by rw [h3]; omega))
    · have hen : enabled w.sess (.advance 1) = true := by
        simp only [enabled, decide_eq_true_eq, List.all_eq_true]
        refine ⟨Nat.one_pos, fun d hd => ?_⟩
        obtain ⟨t, hd⟩ := mem_allTimers hd
        by_cases ht : t = .idleHold
        · subst ht
          have := hI.ih.symm.trans hd
          cases this; omega
        · exact Nat.lt_of_not_le fun hle => hdue ⟨t, d, ht, hd, hle⟩
      exact .step U (.advance 1) trivial hen (show w.sess.now + 1 ≤ _ by omega)
        (ih (step U w (.advance 1)) ⟨hI.st, hI.allow, hI.ih⟩ (show D - (w.sess.now + 1) + otherArmed w.sess.tm ≤ n by omega))

theorem wait_for_idle_hold (w : World) (D : Nat) (h : IdleArmed w D) : WaitGoal U w D :=
  wait_idle U D _ w h (Nat.le_refl _)

end Yabgp
