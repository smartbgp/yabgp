/-
  Liveness half of C02, control part (on the skeleton of Lemmas/Core.lean):

  * the invariant `CL`: in Connect some connection is live (an attempt in flight, or an open transport) - this excludes
    "Connect, retry timer armed, no connection at all", from which only a connect-retry period would lead on;
  * what the loss of the tracked, open connection does: the state machine is Idle afterwards and the automatic-start flag
    is untouched.
-/
import Yabgp.Lemmas.OneConn

namespace Yabgp
namespace Core

def CL (c : Core) : Prop := c.st = .connect → ∃ j, j < c.conns.length ∧ Live c j

theorem CL.of_ne {c : Core} (h : c.st ≠ .connect) : CL c := fun e => absurd e h

theorem CL.of_same {c c' : Core} (h : CL c) (hst : c'.st = c.st) (hc : c'.conns = c.conns) : CL c' := by
  intro e
  obtain ⟨j, hj, hl⟩ := h (hst ▸ e)
  refine ⟨j, by rw [hc]; exact hj, ?_⟩
  unfold Live conn at *
  rw [hc]; exact hl

theorem live_connectTcp {c : Core} (h : c.st ≠ .established) :
    ∃ j, j < c.connectTcp.conns.length ∧ Live c.connectTcp j := by
  unfold connectTcp
  rw [if_pos (by simpa using h)]
  refine ⟨c.abortPending.conns.length, by simp, Or.inl ?_⟩
  simp [conn]

theorem cl_connectTcp {c : Core} (h : c.st ≠ .established) : CL c.connectTcp := fun _ => live_connectTcp h

theorem autoStart_true (c : Core) :
    (c.autoStart true).st = c.st ∧ (c.autoStart true).conns = c.conns ∧ (c.autoStart true).allow = c.allow := by
  unfold autoStart
  split
  · simp [setIdleHold]
  · exact ⟨rfl, rfl, rfl⟩

theorem connectionClosed_cases (c : Core) (p : Option Nat) :
    (c.connectionClosed p).st = .idle ∨
    ((c.connectionClosed p).st = c.st ∧ (c.connectionClosed p).conns = c.conns ∧ ∀ q, p = some q → c.estab ≠ some q) := by
  unfold connectionClosed
  rcases dropEstab_cases c p with h | ⟨h, hq⟩
  · left
    split
    · rw [(autoStart_true _).1]; exact h
    · exact h
  · rw [h]
    right
    split
    · exact ⟨(autoStart_true _).1, (autoStart_true _).2.1, hq⟩
    · exact ⟨rfl, rfl, hq⟩

theorem connectionClosed_st (c : Core) (p : Option Nat) :
    (c.connectionClosed p).st = .idle ∨ (c.connectionClosed p).st = c.st := by
  rcases connectionClosed_cases c p with h | h
  · exact Or.inl h
  · exact Or.inr h.1

theorem dropEstab_allow (c : Core) (p : Option Nat) : (c.dropEstab p).allow = c.allow := by
  unfold dropEstab
  cases p with
  | none => rfl
  | some q => simp only; split <;> rfl

theorem connectionClosed_allow (c : Core) (p : Option Nat) : (c.connectionClosed p).allow = c.allow := by
  unfold connectionClosed
  split
  · rw [(autoStart_true _).2.2, dropEstab_allow]
  · exact dropEstab_allow c p

theorem errorClose_allow (c : Core) : c.errorClose.allow = c.allow := by
  simp [errorClose, withSt, withTm]

theorem connectionFailed_allow (c : Core) : c.connectionFailed.allow = c.allow := by
  unfold connectionFailed
  cases c.st <;> simp only [connectionClosed_allow, errorClose_allow] <;> simp [withSt, setRetry]

theorem connLost_allow (c : Core) (i : Nat) : (c.connLost i).allow = c.allow := by
  unfold connLost
  split
  · rw [connectionClosed_allow]; rfl
  · rw [connectionFailed_allow]; rfl

theorem connectionFailed_st_ne (c : Core) : c.connectionFailed.st ≠ .connect := by
  unfold connectionFailed
  cases hs : c.st <;> simp only
  · simp [hs]
  · rcases connectionClosed_st (((c.setRetry false).closeConn).withSt .idle) c.proto with h | h
    · rw [h]; simp
    · rw [h]; simp [withSt]
  · simp [withSt]
  · rcases connectionClosed_st (((c.closeConn).setRetry true).withSt .active) c.proto with h | h
    · rw [h]; simp
    · rw [h]; simp [withSt]
  · simp [errorClose, withSt]
  · simp [errorClose, withSt]

theorem connLost_idle (c : Core) (i : Nat) (hp : c.proto = some i) (he : c.estab = some i) (hst : c.st ≠ .idle)
    (hna : c.st ≠ .active) : (c.connLost i).st = .idle := by
  have hdrop : ∀ (x : Core), x.estab = some i → (x.connectionClosed (some i)).st = .idle := by
    intro x hx
    rcases connectionClosed_cases x (some i) with h | ⟨_, _, h⟩
    · exact h
    · exact absurd hx (h i rfl)
  unfold connLost
  split
  · exact hdrop _ he
  · unfold connectionFailed
    have hp' : (c.setPhase i .closed).proto = some i := hp
    have hst' : (c.setPhase i .closed).st = c.st := rfl
    rw [hst', hp']
    cases hs : c.st <;> simp only
    · exact absurd hs hst
    · exact hdrop _ (by simp [withSt, setRetry]; exact he)
    · exact absurd hs hna
    · exact hdrop _ (by simp [withSt, setRetry]; exact he)
    · simp [errorClose, withSt]
    · simp [errorClose, withSt]

theorem cl_frameOutcome {c : Core} (h : CL c) : ∀ o ∈ c.frameOutcomes, CL o := by
  intro o ho
  rcases frameOutcome_cases ho with rfl | rfl | ⟨_, rfl⟩ | ⟨_, rfl⟩ | ⟨_, rfl⟩
  · exact h
  all_goals exact CL.of_ne (fun e => St.noConfusion e)

theorem cl_autoStart {c : Core} (h : CL c) (b : Bool) : CL (c.autoStart b) := by
  unfold autoStart
  split
  · split
    · exact h.of_same rfl rfl
    · split
      · exact cl_connectTcp (by simp [withSt])
      · exact h
  · exact h

theorem cl_stepOutcome {c : Core} (h : CL c) (ho1 : One c) (hpd : Pend c) (hh : Heal c) (e : Ev) (hen : enabledC c e) :
    ∀ o ∈ c.stepOutcome e, CL o := by
  refine stepOutcome_cases (cl_frameOutcome h) (cl_autoStart h false) ?start ?stop ?ok ?fail ?lost ?retry ?idleHold e hen
  case start =>
    unfold manualStart
    cases hs : c.st <;> simp only
    · exact cl_connectTcp (by simp [withSt])
    all_goals exact h
  case stop =>
    exact CL.of_ne (by simp [manualStop, withSt])
  case ok =>
    intro i b hl hph _
    obtain ⟨-, hup⟩ := connOk_up i hl (Prod.ext hph (hh.fresh i hph)) b
    exact ⟨i, hup.1, .inr (by rw [hup.2])⟩
  case fail =>
    intro i hl hph
    unfold connFail
    split
    · exact CL.of_ne (connectionFailed_st_ne _)
    · rename_i hne
      exact absurd (hpd i hl hph) hne
  case lost =>
    intro i
    unfold connLost
    split
    · rename_i hd
      rcases connectionClosed_cases (c.setPhase i .closed) (some i) with h1 | ⟨h1, h2, h3⟩
      · exact CL.of_ne (by rw [h1]; simp)
      · -- still Connect: the live connection is another one, since `i` was closed by us and is not the established one
        refine CL.of_same (c := c.setPhase i .closed) (fun hs => ?_) h1 h2
        obtain ⟨j, hj, hlj⟩ := h hs
        have hne : i ≠ j := by
          intro e; subst e
          rcases hlj with hc | hc
          · rw [hh.fresh i hc] at hd; cases hd
          · exact h3 i rfl (ho1.tracked i hj hc).2.1
        exact ⟨j, by rw [len_setPhase]; exact hj, by unfold Live; rw [conn_setPhase, if_neg fun hh' => hne hh'.1]; exact hlj⟩
    · exact CL.of_ne (connectionFailed_st_ne _)
  case retry =>
    unfold fireRetry
    cases hs : c.st <;> simp only
    · exact CL.of_ne (by simp [setRetry, hs])
    · exact cl_connectTcp (by simp [setRetry, hs])
    · exact cl_connectTcp (by simp [setRetry, hs])
    all_goals exact CL.of_ne (by simp [errorClose, withSt])
  case idleHold =>
    unfold fireIdleHold
    split
    · exact cl_autoStart (c := c.setIdleHold false) (h.of_same rfl rfl) false
    · exact h.of_same rfl rfl

end Core
end Yabgp
