/-
  The case analysis of the receive path - `parseBuffer`, `dispatch`, `openReceived`, `openAccepted` - done once: to
  prove something of the result of one of them, prove it of each of the results it can have.  In the `_elim` form a
  premise comes with what is known in its case: the type code (the receive counters depend on it) and, where the
  reaction depends on a parser's verdict, that verdict (the sub-code of an OPEN error is a single octet only because
  `parseOpen` raised it: `parseOpen_err`, Lemmas/OpenErr.lean).  The `_cases` form is the same without them, with the
  premises under the same names.  `dispatch` for a known type code is given by the equations `dispatch_open` …
  `dispatch_unknown`.
-/
import Yabgp.Model.Session

namespace Yabgp
namespace Sess

theorem parseNotification_eq_none {b : Bytes} : parseNotification b = none ↔ ¬ 2 ≤ b.length := by
  match b with
  | [] => simp [parseNotification]
  | [_] => simp [parseNotification]
  | _ :: _ :: _ => simp [parseNotification]

/-- the tail of `_open_received`: the peer's capabilities are recorded, with or without the switch to four-octet
    AS numbers, and then the hold time decides -/
theorem openAccepted_elim {P : Sess × Bool → Prop} (s : Sess) (i : Nat) (m : OpenMsg)
    (badHold : ∀ t, t = (s.withRemote m.caps).setAsn4 i ∨ t = s.withRemote m.caps →
      P (t.openMessageError C.openBadHold, false))
    (ok : ∀ t, t = (s.withRemote m.caps).setAsn4 i ∨ t = s.withRemote m.caps →
      P (((t.withHoldTime (min s.cfg.holdCfg m.holdTime)).fsmOpenReceived).emit (.hOpen i m), true)) :
    P (s.openAccepted i m) := by
  unfold openAccepted
  by_cases hh : m.holdTime ≠ 0 ∧ m.holdTime < 3 <;>
    by_cases h4 : m.caps.fourBytesAs ∧ (s.cfg.localAs > 65535 ∨ s.localCaps.fourBytesAs)
  · rw [if_pos hh, if_pos h4]; exact badHold _ (.inl rfl)
  · rw [if_pos hh, if_neg h4]; exact badHold _ (.inr rfl)
  · rw [if_neg hh, if_pos h4]; exact ok _ (.inl rfl)
  · rw [if_neg hh, if_neg h4]; exact ok _ (.inr rfl)

theorem openReceived_elim {P : Sess × Bool → Prop} (s : Sess) (i : Nat) (body : Bytes)
    (hdr : ∀ sub, parseOpen body = .error (.hdr sub) → P ((s.bumpRecv i incOpens).headerError sub [], false))
    (bad : ∀ sub, parseOpen body = .error (.open sub) → P ((s.bumpRecv i incOpens).openMessageError sub, false))
    (other : P (s.bumpRecv i incOpens, true))
    (peerAs : P ((s.bumpRecv i incOpens).openMessageError C.openBadPeerAs, false))
    (accepted : ∀ m, P ((s.bumpRecv i incOpens).openAccepted i m)) :
    P (s.openReceived i body) := by
  unfold openReceived
  cases hp : parseOpen body with
  | error e =>
    cases e with
    | hdr sub => exact hdr sub hp
    | «open» sub => exact bad sub hp
    | other => exact other
  | ok m =>
    by_cases ha : s.cfg.remoteAs ≠ m.asn
    · simp only [if_pos ha]; exact peerAs
    · simp only [if_neg ha]; exact accepted m

theorem dispatch_elim {P : Sess × Bool → Prop} (U : Bool → Bytes → UpdClass) (s : Sess) (i ty : Nat) (body : Bytes)
    (opn : ty = 1 → P (s.openReceived i body))
    (raises : ty = 2 → P (s.bumpRecv i incUpdates, true))
    (unmodelled : ty = 2 → P ((s.bumpRecv i incUpdates).emit .unmodelled, true))
    (malformed : ty = 2 → P (((s.bumpRecv i incUpdates).emit (.hUpdateError i body)).fsmUpdateReceived, true))
    (good : ty = 2 → P (((s.bumpRecv i incUpdates).emit (.hUpdate i (s.conn i).asn4 body)).fsmUpdateReceived, true))
    (noNotif : ty = 3 → parseNotification body = none → P (s, true))
    (notif : ∀ e sub d, ty = 3 → parseNotification body = some (e, sub, d) →
      P (((s.bumpRecv i incNotifications).emit (.hNotification i d)).fsmNotificationReceived e sub, true))
    (ka : ty = 4 → P (((s.bumpRecv i incKeepalives).emit (.hKeepalive i)).fsmKeepaliveReceived, true))
    (kaLen : ty = 4 → P (((s.bumpRecv i incKeepalives).emit (.hKeepalive i)).headerError C.hdrBadLen [], false))
    (rr0 : ty = 5 ∨ ty = 128 → P (s.bumpRecv i incRouteRefresh, true))
    (rr : ∀ a r sf, ty = 5 ∨ ty = 128 → P ((s.bumpRecv i incRouteRefresh).emit (.hRouteRefresh i a r sf ty), true))
    (unknown : ty ≠ 1 → ty ≠ 2 → ty ≠ 3 → ty ≠ 4 → ¬(ty = 5 ∨ ty = 128) → P (s.headerError C.hdrBadType (be16 ty), true)) :
    P (dispatch U s i ty body) := by
  unfold dispatch
  by_cases h1 : ty = C.msgOpen
  · rw [if_pos h1]; exact opn h1
  rw [if_neg h1]
  by_cases h2 : ty = C.msgUpdate
  · rw [if_pos h2]
    cases U (s.conn i).asn4 body
    · exact raises h2
    · exact malformed h2
    · exact good h2
    · exact unmodelled h2
  rw [if_neg h2]
  by_cases h3 : ty = C.msgNotification
  · rw [if_pos h3]
    cases hn : parseNotification body with
    | none => exact noNotif h3 hn
    | some x => exact notif _ _ _ h3 hn
  rw [if_neg h3]
  by_cases h4 : ty = C.msgKeepalive
  · rw [if_pos h4]
    by_cases hb : body = []
    · rw [if_pos hb]; exact ka h4
    · rw [if_neg hb]; exact kaLen h4
  rw [if_neg h4]
  by_cases h5 : ty = C.msgRouteRefresh ∨ ty = C.msgCiscoRouteRefresh
  · rw [if_pos h5]
    cases parseRouteRefresh body with
    | none => exact rr0 h5
    | some x => exact rr _ _ _ h5
  · rw [if_neg h5]; exact unknown h1 h2 h3 h4 h5

theorem parseBuffer_elim {P : Sess × Option Bytes → Prop} (U : Bool → Bytes → UpdClass) (s : Sess) (i : Nat) (buf : Bytes)
    (closed : (s.conn i).disconnected = true → P (s, none))
    (short : headOf buf = .short → P (s, none))
    (sync : headOf buf = .badMarker → P (s.headerError C.hdrNotSync [], none))
    (len : ∀ l, headOf buf = .badLength l → P (s.headerError C.hdrBadLen (be16 l), none))
    (more : ∀ ty body l, (s.conn i).disconnected ≠ true → headOf buf = .frame ty body l →
      (dispatch U s i ty body).2 = true → P ((dispatch U s i ty body).1, some (buf.drop l)))
    (stop : ∀ ty body l, (s.conn i).disconnected ≠ true → headOf buf = .frame ty body l →
      (dispatch U s i ty body).2 ≠ true → P ((dispatch U s i ty body).1, none)) :
    P (parseBuffer U s i buf) := by
  unfold parseBuffer
  by_cases hd : (s.conn i).disconnected
  · rw [if_pos hd]; exact closed hd
  rw [if_neg hd]
  cases hh : headOf buf with
  | short => exact short hh
  | badMarker => exact sync hh
  | badLength l => exact len l hh
  | frame ty body l =>
    by_cases h : (dispatch U s i ty body).2
    · simp only [if_pos h]; exact more _ _ _ hd hh h
    · simp only [if_neg h]; exact stop _ _ _ hd hh h

theorem openAccepted_cases {s : Sess} {i : Nat} {m : OpenMsg} {P : Sess × Bool → Prop}
    (h : ∀ t, t = (s.withRemote m.caps).setAsn4 i ∨ t = s.withRemote m.caps →
      P (t.openMessageError C.openBadHold, false) ∧
      P (((t.withHoldTime (min s.cfg.holdCfg m.holdTime)).fsmOpenReceived).emit (.hOpen i m), true)) :
    P (s.openAccepted i m) :=
  openAccepted_elim s i m (fun t ht => (h t ht).1) (fun t ht => (h t ht).2)

theorem openReceived_cases {s : Sess} {i : Nat} {body : Bytes} {P : Sess × Bool → Prop}
    (hdr : ∀ sub, P ((s.bumpRecv i incOpens).headerError sub [], false))
    (bad : ∀ sub, P ((s.bumpRecv i incOpens).openMessageError sub, false))
    (other : P (s.bumpRecv i incOpens, true))
    (accepted : ∀ m, P ((s.bumpRecv i incOpens).openAccepted i m)) :
    P (s.openReceived i body) :=
  openReceived_elim s i body (fun sub _ => hdr sub) (fun sub _ => bad sub) other (bad _) accepted

theorem dispatch_cases {U : Bool → Bytes → UpdClass} {s : Sess} {i ty : Nat} {body : Bytes} {P : Sess × Bool → Prop}
    (opn : P (s.openReceived i body))
    (raises : P (s.bumpRecv i incUpdates, true))
    (unmodelled : P ((s.bumpRecv i incUpdates).emit .unmodelled, true))
    (malformed : P (((s.bumpRecv i incUpdates).emit (.hUpdateError i body)).fsmUpdateReceived, true))
    (good : P (((s.bumpRecv i incUpdates).emit (.hUpdate i (s.conn i).asn4 body)).fsmUpdateReceived, true))
    (noNotif : P (s, true))
    (notif : ∀ e sub d, P (((s.bumpRecv i incNotifications).emit (.hNotification i d)).fsmNotificationReceived e sub, true))
    (ka : P (((s.bumpRecv i incKeepalives).emit (.hKeepalive i)).fsmKeepaliveReceived, true))
    (kaLen : P (((s.bumpRecv i incKeepalives).emit (.hKeepalive i)).headerError C.hdrBadLen [], false))
    (rr0 : P (s.bumpRecv i incRouteRefresh, true))
    (rr : ∀ a r sf, P ((s.bumpRecv i incRouteRefresh).emit (.hRouteRefresh i a r sf ty), true))
    (unknown : P (s.headerError C.hdrBadType (be16 ty), true)) :
    P (dispatch U s i ty body) :=
  dispatch_elim U s i ty body (fun _ => opn) (fun _ => raises) (fun _ => unmodelled) (fun _ => malformed)
    (fun _ => good) (fun _ _ => noNotif) (fun e sub d _ _ => notif e sub d) (fun _ => ka) (fun _ => kaLen)
    (fun _ => rr0) (fun a r sf _ => rr a r sf) (fun _ _ _ _ _ => unknown)

theorem parseBuffer_cases {U : Bool → Bytes → UpdClass} {s : Sess} {i : Nat} {buf : Bytes} {P : Sess × Option Bytes → Prop}
    (wait : P (s, none))
    (sync : P (s.headerError C.hdrNotSync [], none))
    (len : ∀ l, P (s.headerError C.hdrBadLen (be16 l), none))
    (frame : ∀ ty body r, P ((dispatch U s i ty body).1, r)) :
    P (parseBuffer U s i buf) :=
  parseBuffer_elim U s i buf (fun _ => wait) (fun _ => wait) (fun _ => sync) (fun l _ => len l)
    (fun ty body _ _ _ _ => frame ty body _) (fun ty body _ _ _ _ => frame ty body _)

section
variable (U : Bool → Bytes → UpdClass) (s : Sess) (i : Nat) (body : Bytes)

theorem dispatch_open : dispatch U s i 1 body = openReceived s i body := rfl

theorem dispatch_update : dispatch U s i 2 body =
    match U (s.conn i).asn4 body with
    | .raises => (s.bumpRecv i incUpdates, true)
    | .unmodelled => ((s.bumpRecv i incUpdates).emit .unmodelled, true)
    | .malformed => (((s.bumpRecv i incUpdates).emit (.hUpdateError i body)).fsmUpdateReceived, true)
    | .good => (((s.bumpRecv i incUpdates).emit (.hUpdate i (s.conn i).asn4 body)).fsmUpdateReceived, true) := rfl

theorem dispatch_notification : dispatch U s i 3 body =
    match parseNotification body with
    | none => (s, true)
    | some (e, sub, d) => (((s.bumpRecv i incNotifications).emit (.hNotification i d)).fsmNotificationReceived e sub, true) :=
  rfl

theorem dispatch_keepalive : dispatch U s i 4 body =
    if body = [] then (((s.bumpRecv i incKeepalives).emit (.hKeepalive i)).fsmKeepaliveReceived, true)
    else (((s.bumpRecv i incKeepalives).emit (.hKeepalive i)).headerError C.hdrBadLen [], false) := rfl

theorem dispatch_routeRefresh {ty : Nat} (hty : ty = 5 ∨ ty = 128) : dispatch U s i ty body =
    match parseRouteRefresh body with
    | none => (s.bumpRecv i incRouteRefresh, true)
    | some (a, r, sf) => ((s.bumpRecv i incRouteRefresh).emit (.hRouteRefresh i a r sf ty), true) := by
  rcases hty with rfl | rfl <;> rfl

theorem dispatch_unknown {ty : Nat} (h : ty ≠ 1 ∧ ty ≠ 2 ∧ ty ≠ 3 ∧ ty ≠ 4 ∧ ty ≠ 5 ∧ ty ≠ 128) :
    dispatch U s i ty body = (s.headerError C.hdrBadType (be16 ty), true) :=
  dispatch_elim (P := (· = _)) U s i ty body (absurd · h.1) (absurd · h.2.1) (absurd · h.2.1) (absurd · h.2.1) (absurd · h.2.1)
    (fun e => absurd e h.2.2.1) (fun _ _ _ e => absurd e h.2.2.1) (absurd · h.2.2.2.1) (absurd · h.2.2.2.1)
    (fun e => (e.elim h.2.2.2.2.1 h.2.2.2.2.2).elim) (fun _ _ _ e => (e.elim h.2.2.2.2.1 h.2.2.2.2.2).elim) fun _ _ _ _ _ => rfl

end

theorem msgType_cases (ty : Nat) :
    ty = 1 ∨ ty = 2 ∨ ty = 3 ∨ ty = 4 ∨ (ty = 5 ∨ ty = 128) ∨
      (ty ≠ 1 ∧ ty ≠ 2 ∧ ty ≠ 3 ∧ ty ≠ 4 ∧ ty ≠ 5 ∧ ty ≠ 128) := by
  omega

end Sess
end Yabgp
