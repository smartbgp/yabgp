/-
  Runs of the session model: a list of events is an enabled run from a world when each event is one the environment
  can produce in the state it meets.  The statements about all histories are stated with `EnabledRun` and `runOuts`
  and proved by `run_induction`.
-/
import Yabgp.Model.Session

namespace Yabgp

variable (U : Bool → Bytes → UpdClass)

def EnabledRun : World → List Ev → Prop
  | _, [] => True
  | w, e :: r => enabled w.sess e = true ∧ EnabledRun (step U w e) r

def runOuts : World → List Ev → List Out
  | _, [] => []
  | w, e :: r => (step U w e).sess.outs ++ runOuts (step U w e) r

theorem run_append (w : World) (a b : List Ev) : run U w (a ++ b) = run U (run U w a) b := by
  induction a generalizing w with
  | nil => rfl
  | cons e r ih => simp only [List.cons_append, run]; exact ih _

theorem enabledRun_append (w : World) (a b : List Ev) (ha : EnabledRun U w a) (hb : EnabledRun U (run U w a) b) :
    EnabledRun U w (a ++ b) := by
  induction a generalizing w with
  | nil => exact hb
  | cons e r ih => exact ⟨ha.1, ih _ ha.2 hb⟩

/-- With `skel_step` (Lemmas/Skel.lean) for `step` this is the induction behind the statements about all histories
    (give `Q` explicitly: it is not found by unification). -/
theorem run_induction {I : World → Prop} {Q : World → List Ev → Prop}
    (step : ∀ w e, enabled w.sess e = true → I w → I (step U w e)) (nil : ∀ w, I w → Q w [])
    (cons : ∀ w e r, enabled w.sess e = true → I w → Q (Yabgp.step U w e) r → Q w (e :: r)) :
    ∀ (evs : List Ev) (w : World), I w → EnabledRun U w evs → Q w evs
  | [], w, h, _ => nil w h
  | e :: r, w, h, hen => cons w e r hen.1 h (run_induction step nil cons r _ (step w e hen.1 h) hen.2)

end Yabgp
