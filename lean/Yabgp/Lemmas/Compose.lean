/-
  List decoders on concatenations, and dictionaries read in another order (C15; C11 uses `words32_length`).
-/
import Yabgp.Lemmas.RefRt
import Yabgp.Lemmas.OpenRt

namespace Yabgp
open Spec

/-! ### 32-bit word lists: COMMUNITIES, CLUSTER_LIST; triples: LARGE_COMMUNITY -/

theorem words32_append : ∀ (a b : Bytes), a.length % 4 = 0 → words32 (a ++ b) = words32 a ++ words32 b
  | [], _, _ => rfl
  | [_], _, h | [_, _], _, h | [_, _, _], _, h => nomatch h
  | x1 :: x2 :: x3 :: x4 :: r, b, h => by
    have := words32_append r b ((Nat.add_mod_right r.length 4).symm.trans h)
    simp only [List.cons_append, words32, this]

theorem words32_length : ∀ (a : Bytes), (words32 a).length = a.length / 4
  | [] | [_] | [_, _] | [_, _, _] => by simp [words32]
  | x1 :: x2 :: x3 :: x4 :: r => by
    have := words32_length r
    simp only [words32, List.length_cons, this]; omega

theorem triples_append : ∀ (a b : List Nat), a.length % 3 = 0 → triples (a ++ b) = triples a ++ triples b
  | [], _, _ => rfl
  | [_], _, h | [_, _], _, h => nomatch h
  | x1 :: x2 :: x3 :: r, b, h => by
    have := triples_append r b ((Nat.add_mod_right r.length 3).symm.trans h)
    simp only [List.cons_append, triples, this]

theorem dictGet_append_fresh (d : List (Nat × AttrVal)) (k : Nat) (v : AttrVal) (k' : Nat) :
    dictGet (d ++ [(k, v)]) k' = match dictGet d k' with
                                 | some x => some x
                                 | none => if k = k' then some v else none := by
  induction d with
  | nil => simp [dictGet]
  | cons kv r ih =>
    obtain ⟨a, b⟩ := kv
    simp only [List.cons_append, dictGet]
    split
    · rfl
    · exact ih

theorem dictGet_of_mem {d : List (Nat × AttrVal)} (hnd : (d.map (·.1)).Nodup) {k : Nat} {v : AttrVal}
    (h : (k, v) ∈ d) : dictGet d k = some v := by
  induction d with
  | nil => cases h
  | cons kv r ih =>
    obtain ⟨a, b⟩ := kv
    rw [List.map_cons, List.nodup_cons] at hnd
    rw [dictGet]
    rcases List.mem_cons.mp h with e | h
    · cases e; exact if_pos rfl
    · rw [if_neg fun (e : a = k) => hnd.1 (e ▸ List.mem_map_of_mem (f := (·.1)) h), ih hnd.2 h]

theorem dictGet_none_of_not_mem {d : List (Nat × AttrVal)} {k : Nat} (h : k ∉ d.map (·.1)) : dictGet d k = none := by
  induction d with
  | nil => rfl
  | cons kv r ih =>
    obtain ⟨a, b⟩ := kv
    simp only [List.map_cons, List.mem_cons, not_or] at h
    simp only [dictGet]
    rw [if_neg (fun e => h.1 e.symm)]
    exact ih h.2

theorem dictGet_perm {d e : List (Nat × AttrVal)} (hp : d.Perm e) (hnd : (d.map (·.1)).Nodup) (k : Nat) :
    dictGet d k = dictGet e k := by
  have hnde : (e.map (·.1)).Nodup := (hp.map _).nodup_iff.mp hnd
  by_cases hk : k ∈ d.map (·.1)
  · obtain ⟨⟨a, v⟩, hm, rfl⟩ := List.mem_map.mp hk
    rw [dictGet_of_mem hnd hm, dictGet_of_mem hnde (hp.mem_iff.mp hm)]
  · have hk' : k ∉ e.map (·.1) := fun h => hk ((hp.map _).mem_iff.mpr h)
    rw [dictGet_none_of_not_mem hk, dictGet_none_of_not_mem hk']

end Yabgp
