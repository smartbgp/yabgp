/-
  The relations most often carried across an action: `Keeps f` - an observable `f` of every connection is the same
  before and after; `OutsExt Po` - the outputs were extended by items that satisfy `Po`; `Ext f Po` - both.  `Tame` and
  `TameEv` say of `f` and `Po` what makes `Ext f Po` hold across the close helpers and across connection management.
-/
import Yabgp.Lemmas.Pass

namespace Yabgp
namespace Sess

def Keeps {α : Type} (f : Conn → α) (s s' : Sess) : Prop := ∀ j, f (s'.conn j) = f (s.conn j)

theorem Keeps.refl {α : Type} (f : Conn → α) (s : Sess) : Keeps f s s := fun _ => rfl
theorem Keeps.trans {α : Type} {f : Conn → α} {a b c : Sess} (h1 : Keeps f a b) (h2 : Keeps f b c) : Keeps f a c :=
  fun j => (h2 j).trans (h1 j)
theorem Keeps.of_same {α : Type} {f : Conn → α} {s s' : Sess} (hc : s'.conns = s.conns) : Keeps f s s' := by
  intro j; simp [conn, hc]

theorem Keeps.setConn {α : Type} {f : Conn → α} {s : Sess} {i : Nat} {c : Conn} (h : f c = f (s.conn i)) :
    Keeps f s (s.setConn i c) := by
  intro j; rw [conn_setConn]; split
  · rename_i hh; rw [← hh.1]; exact h
  · rfl

def OutsExt (P : Out → Prop) (s s' : Sess) : Prop := ∃ ext, s'.outs = s.outs ++ ext ∧ ∀ o ∈ ext, P o

theorem OutsExt.refl (P : Out → Prop) (s : Sess) : OutsExt P s s := ⟨[], by simp, by simp⟩
theorem OutsExt.trans {P : Out → Prop} {a b c : Sess} (h1 : OutsExt P a b) (h2 : OutsExt P b c) : OutsExt P a c := by
  obtain ⟨e1, q1, p1⟩ := h1
  obtain ⟨e2, q2, p2⟩ := h2
  refine ⟨e1 ++ e2, by rw [q2, q1, List.append_assoc], ?_⟩
  intro o ho
  rcases List.mem_append.mp ho with h | h
  · exact p1 o h
  · exact p2 o h
theorem OutsExt.of_same {P : Out → Prop} {s s' : Sess} (h : s'.outs = s.outs) : OutsExt P s s' := ⟨[], by simp [h], by simp⟩
theorem OutsExt.emit {P : Out → Prop} (s : Sess) (o : Out) (h : P o) : OutsExt P s (s.emit o) :=
  ⟨[o], rfl, by simp [h]⟩
theorem OutsExt.mono {P Q : Out → Prop} {s s' : Sess} (ho : ∀ o, P o → Q o) (h : OutsExt P s s') : OutsExt Q s s' :=
  let ⟨l, e, p⟩ := h
  ⟨l, e, fun o m => ho o (p o m)⟩

def Ext {α : Type} (f : Conn → α) (Po : Out → Prop) (s s' : Sess) : Prop := Keeps f s s' ∧ OutsExt Po s s'

section
variable {α : Type} {f : Conn → α} {Po : Out → Prop}

theorem Ext.of_same {s s' : Sess} (hc : ∀ j, s'.conn j = s.conn j) (ho : s'.outs = s.outs) : Ext f Po s s' :=
  ⟨fun j => congrArg f (hc j), .of_same ho⟩

theorem Ext.refl (s : Sess) : Ext f Po s s := ⟨.refl f s, .refl Po s⟩

theorem Ext.trans {a b c : Sess} (h1 : Ext f Po a b) (h2 : Ext f Po b c) : Ext f Po a c :=
  ⟨h1.1.trans h2.1, h1.2.trans h2.2⟩

theorem Ext.mono {β : Type} {g : Conn → β} {Po' : Out → Prop} {s s' : Sess} (hg : ∀ c c', f c' = f c → g c' = g c)
    (ho : ∀ o, Po o → Po' o) (h : Ext f Po s s') : Ext g Po' s s' :=
  ⟨fun j => hg _ _ (h.1 j), h.2.mono ho⟩

theorem Ext.emit (s : Sess) (o : Out) (h : Po o) : Ext f Po s (s.emit o) := ⟨.refl f s, .emit s o h⟩

theorem Ext.setConn (s : Sess) (j : Nat) (c : Conn) (h : f c = f (s.conn j)) : Ext f Po s (s.setConn j c) :=
  ⟨.setConn h, .of_same rfl⟩

theorem ext_bumpRecv (s : Sess) (j : Nat) (g : Stats → Stats) (h : ∀ c x, f { c with recv := x } = f c) :
    Ext f Po s (s.bumpRecv j g) := .setConn s j _ (h _ _)
theorem ext_setPhase (s : Sess) (j : Nat) (p : Phase) (h : ∀ c p, f { c with phase := p } = f c) :
    Ext f Po s (s.setPhase j p) := .setConn s j _ (h _ _)
theorem ext_setAsn4 (s : Sess) (j : Nat) (h : ∀ c, f { c with asn4 := true } = f c) : Ext f Po s (s.setAsn4 j) :=
  .setConn s j _ (h _)

theorem ext_withTm (s : Sess) (v : Timers) : Ext f Po s (s.withTm v) := .of_same (fun _ => rfl) rfl
theorem ext_withSt (s : Sess) (v : St) : Ext f Po s (s.withSt v) := .of_same (fun _ => rfl) rfl
theorem ext_withNow (s : Sess) (v : Nat) : Ext f Po s (s.withNow v) := .of_same (fun _ => rfl) rfl
theorem ext_withAllow (s : Sess) (v : Bool) : Ext f Po s (s.withAllow v) := .of_same (fun _ => rfl) rfl
theorem ext_withRetryCounter (s : Sess) (v : Nat) : Ext f Po s (s.withRetryCounter v) := .of_same (fun _ => rfl) rfl
theorem ext_withHoldTime (s : Sess) (v : Nat) : Ext f Po s (s.withHoldTime v) := .of_same (fun _ => rfl) rfl
theorem ext_withProto (s : Sess) (v : Option Nat) : Ext f Po s (s.withProto v) := .of_same (fun _ => rfl) rfl
theorem ext_withEstab (s : Sess) (v : Option Nat) : Ext f Po s (s.withEstab v) := .of_same (fun _ => rfl) rfl
theorem ext_withPending (s : Sess) (v : Option Nat) : Ext f Po s (s.withPending v) := .of_same (fun _ => rfl) rfl
theorem ext_withLocalCaps (s : Sess) (v : LocalCaps) : Ext f Po s (s.withLocalCaps v) := .of_same (fun _ => rfl) rfl
theorem ext_withRemote (s : Sess) (v : CapaDict) : Ext f Po s (s.withRemote v) := .of_same (fun _ => rfl) rfl
theorem ext_withBgpId (s : Sess) (v : Option Nat) : Ext f Po s (s.withBgpId v) := .of_same (fun _ => rfl) rfl
theorem ext_setRetry (s : Sess) (v : Option Nat) : Ext f Po s (s.setRetry v) := ext_withTm s _
theorem ext_setHold (s : Sess) (v : Option Nat) : Ext f Po s (s.setHold v) := ext_withTm s _
theorem ext_setKeepalive (s : Sess) (v : Option Nat) : Ext f Po s (s.setKeepalive v) := ext_withTm s _
theorem ext_setIdleHold (s : Sess) (v : Option Nat) : Ext f Po s (s.setIdleHold v) := ext_withTm s _

end

structure Tame {α : Type} (f : Conn → α) (Po : Out → Prop) : Prop where
  phase : ∀ (c : Conn) (p : Phase), f { c with phase := p } = f c
  disc : ∀ (c : Conn) (b : Bool), f { c with disconnected := b } = f c
  lose : ∀ i, Po (.lose i)
  hEstablished : Po .hEstablished

theorem Tame.closes {α : Type} {f : Conn → α} {Po : Out → Prop} (T : Tame f Po) : Closes (Ext f Po) where
  refl := .refl
  trans := .trans
  tm s v _ := ext_withTm s v
  withSt := ext_withSt
  withRetryCounter := ext_withRetryCounter
  established s := .emit s _ T.hEstablished
  setDisconnected s i := .setConn s i _ (T.disc _ _)
  closing s i := (ext_setPhase s i _ T.phase).trans (.setConn _ i _ (T.disc _ _))
  lose s i := .emit s _ (T.lose i)

structure TameEv {α : Type} (f : Conn → α) (Po : Out → Prop) : Prop extends Tame f Po where
  connect : ∀ i, Po (.connect i)
  hConnLost : ∀ i, Po (.hConnLost i)
  hConnFailed : Po .hConnFailed
  retStart : ∀ v, Po (.retStart v)
  retStop : Po .retStop

theorem TameEv.ctl {α : Type} {f : Conn → α} {Po : Out → Prop} (T : TameEv f Po) (o : Out) (h : isCtl o = true) : Po o := by
  cases o with
  | connect i => exact T.connect i
  | hConnLost i => exact T.hConnLost i
  | hConnFailed => exact T.hConnFailed
  | retStart v => exact T.retStart v
  | retStop => exact T.retStop
  | _ => cases h

theorem TameEv.events {α : Type} {f : Conn → α} {Po : Out → Prop} (T : TameEv f Po) : Events (Ext f Po) where
  toCloses := T.closes
  withAllow := ext_withAllow
  withEstab := ext_withEstab
  withPending := ext_withPending
  closed s i := ext_setPhase s i _ T.phase
  addConn s := .of_same (conn_addConn s) rfl
  ctl s o h := .emit s o (T.ctl o h)

theorem TameEv.manualStart {α : Type} {f : Conn → α} {Po : Out → Prop} (T : TameEv f Po) (s : Sess) :
    Ext f Po s s.manualStart := T.events.manualStart s

theorem TameEv.stopTail {α : Type} {f : Conn → α} {Po : Out → Prop} (T : TameEv f Po) (s : Sess) :
    Ext f Po s (((((((s.withTm {}).closeConn).withRetryCounter 0).withAllow false).setSt .idle).abortPending).emit .retStop) :=
  T.events.stopTail s

end Sess
end Yabgp
