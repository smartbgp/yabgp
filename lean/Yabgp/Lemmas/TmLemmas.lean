/-
  What each helper does to the timers (`tm`), to the negotiated hold time and to the clock (`now`).
-/
import Yabgp.Lemmas.StLemmas
import Yabgp.Lemmas.Framing

namespace Yabgp
namespace Sess

@[simp] theorem tm_emit (s : Sess) (o : Out) : (s.emit o).tm = s.tm := rfl
@[simp] theorem tm_withSt (s : Sess) (v : St) : (s.withSt v).tm = s.tm := rfl
@[simp] theorem tm_withAllow (s : Sess) (v : Bool) : (s.withAllow v).tm = s.tm := rfl
@[simp] theorem tm_withRetryCounter (s : Sess) (v : Nat) : (s.withRetryCounter v).tm = s.tm := rfl
@[simp] theorem tm_incRetryCounter (s : Sess)  : (s.incRetryCounter).tm = s.tm := rfl
@[simp] theorem tm_withProto (s : Sess) (v : Option Nat) : (s.withProto v).tm = s.tm := rfl
@[simp] theorem tm_withEstab (s : Sess) (v : Option Nat) : (s.withEstab v).tm = s.tm := rfl
@[simp] theorem tm_withConns (s : Sess) (v : List Conn) : (s.withConns v).tm = s.tm := rfl
@[simp] theorem tm_withLocalCaps (s : Sess) (v : LocalCaps) : (s.withLocalCaps v).tm = s.tm := rfl
@[simp] theorem tm_withRemote (s : Sess) (v : CapaDict) : (s.withRemote v).tm = s.tm := rfl
@[simp] theorem tm_withBgpId (s : Sess) (v : Option Nat) : (s.withBgpId v).tm = s.tm := rfl
@[simp] theorem tm_withOuts (s : Sess) (v : List Out) : (s.withOuts v).tm = s.tm := rfl
@[simp] theorem tm_withNow (s : Sess) (v : Nat) : (s.withNow v).tm = s.tm := rfl
@[simp] theorem tm_setConn (s : Sess) (i : Nat) (c : Conn) : (s.setConn i c).tm = s.tm := rfl
@[simp] theorem tm_setPhase (s : Sess) (i : Nat) (p : Phase) : (s.setPhase i p).tm = s.tm := rfl
@[simp] theorem tm_setDisconnected (s : Sess) (i : Nat) : (s.setDisconnected i).tm = s.tm := rfl
@[simp] theorem tm_setAsn4 (s : Sess) (i : Nat) : (s.setAsn4 i).tm = s.tm := rfl
@[simp] theorem tm_bumpSent (s : Sess) (i : Nat) (g : Stats → Stats) : (s.bumpSent i g).tm = s.tm := rfl
@[simp] theorem tm_bumpRecv (s : Sess) (i : Nat) (g : Stats → Stats) : (s.bumpRecv i g).tm = s.tm := rfl
@[simp] theorem tm_withHoldTime (s : Sess) (v : Nat) : (s.withHoldTime v).tm = s.tm := rfl
@[simp] theorem tm_withTm (s : Sess) (v : Timers) : (s.withTm v).tm = v := rfl
@[simp] theorem tm_setRetry (s : Sess) (v : Option Nat) : (s.setRetry v).tm = { s.tm with retry := v } := rfl
@[simp] theorem tm_setHold (s : Sess) (v : Option Nat) : (s.setHold v).tm = { s.tm with hold := v } := rfl
@[simp] theorem tm_setKeepalive (s : Sess) (v : Option Nat) : (s.setKeepalive v).tm = { s.tm with keepalive := v } := rfl
@[simp] theorem tm_setIdleHold (s : Sess) (v : Option Nat) : (s.setIdleHold v).tm = { s.tm with idleHold := v } := rfl

@[simp] theorem tm_setSt (s : Sess) (v : St) : (s.setSt v).tm = s.tm := by
  unfold Sess.setSt; split <;> rfl
@[simp] theorem tm_writeOn (s : Sess) (i : Nat) (b : Bytes) : (s.writeOn i b).tm = s.tm := by
  unfold writeOn; split <;> rfl
@[simp] theorem tm_connectTcp (s : Sess) : s.connectTcp.tm = s.tm := by unfold connectTcp; split <;> simp [withConns]
@[simp] theorem tm_sendNotification (s : Sess) (e sub : Nat) (d : Bytes) : (s.sendNotification e sub d).tm = s.tm := by
  unfold sendNotification; split
  · rfl
  · split <;> simp
@[simp] theorem tm_sendKeepalive (s : Sess) : (s.sendKeepalive).tm = s.tm := by
  unfold sendKeepalive; split <;> simp
@[simp] theorem tm_closeOn (s : Sess) (i : Nat) : (s.closeOn i).tm = s.tm := by
  unfold closeOn; split
  · simp
  · split <;> simp
@[simp] theorem tm_closeConn (s : Sess) : (s.closeConn).tm = s.tm := by
  unfold closeConn; split <;> simp

@[simp] theorem holdTime_emit (s : Sess) (o : Out) : (s.emit o).holdTime = s.holdTime := rfl
@[simp] theorem holdTime_withSt (s : Sess) (v : St) : (s.withSt v).holdTime = s.holdTime := rfl
@[simp] theorem holdTime_withAllow (s : Sess) (v : Bool) : (s.withAllow v).holdTime = s.holdTime := rfl
@[simp] theorem holdTime_withRetryCounter (s : Sess) (v : Nat) : (s.withRetryCounter v).holdTime = s.holdTime := rfl
@[simp] theorem holdTime_incRetryCounter (s : Sess)  : (s.incRetryCounter).holdTime = s.holdTime := rfl
@[simp] theorem holdTime_withProto (s : Sess) (v : Option Nat) : (s.withProto v).holdTime = s.holdTime := rfl
@[simp] theorem holdTime_withEstab (s : Sess) (v : Option Nat) : (s.withEstab v).holdTime = s.holdTime := rfl
@[simp] theorem holdTime_withConns (s : Sess) (v : List Conn) : (s.withConns v).holdTime = s.holdTime := rfl
@[simp] theorem holdTime_withLocalCaps (s : Sess) (v : LocalCaps) : (s.withLocalCaps v).holdTime = s.holdTime := rfl
@[simp] theorem holdTime_withRemote (s : Sess) (v : CapaDict) : (s.withRemote v).holdTime = s.holdTime := rfl
@[simp] theorem holdTime_withBgpId (s : Sess) (v : Option Nat) : (s.withBgpId v).holdTime = s.holdTime := rfl
@[simp] theorem holdTime_withOuts (s : Sess) (v : List Out) : (s.withOuts v).holdTime = s.holdTime := rfl
@[simp] theorem holdTime_withNow (s : Sess) (v : Nat) : (s.withNow v).holdTime = s.holdTime := rfl
@[simp] theorem holdTime_setConn (s : Sess) (i : Nat) (c : Conn) : (s.setConn i c).holdTime = s.holdTime := rfl
@[simp] theorem holdTime_setPhase (s : Sess) (i : Nat) (p : Phase) : (s.setPhase i p).holdTime = s.holdTime := rfl
@[simp] theorem holdTime_setDisconnected (s : Sess) (i : Nat) : (s.setDisconnected i).holdTime = s.holdTime := rfl
@[simp] theorem holdTime_setAsn4 (s : Sess) (i : Nat) : (s.setAsn4 i).holdTime = s.holdTime := rfl
@[simp] theorem holdTime_bumpSent (s : Sess) (i : Nat) (g : Stats → Stats) : (s.bumpSent i g).holdTime = s.holdTime := rfl
@[simp] theorem holdTime_bumpRecv (s : Sess) (i : Nat) (g : Stats → Stats) : (s.bumpRecv i g).holdTime = s.holdTime := rfl
@[simp] theorem holdTime_withHoldTime (s : Sess) (v : Nat) : (s.withHoldTime v).holdTime = v := rfl
@[simp] theorem holdTime_withTm (s : Sess) (v : Timers) : (s.withTm v).holdTime = s.holdTime := rfl
@[simp] theorem holdTime_setRetry (s : Sess) (v : Option Nat) : (s.setRetry v).holdTime = s.holdTime := rfl
@[simp] theorem holdTime_setHold (s : Sess) (v : Option Nat) : (s.setHold v).holdTime = s.holdTime := rfl
@[simp] theorem holdTime_setKeepalive (s : Sess) (v : Option Nat) : (s.setKeepalive v).holdTime = s.holdTime := rfl
@[simp] theorem holdTime_setIdleHold (s : Sess) (v : Option Nat) : (s.setIdleHold v).holdTime = s.holdTime := rfl

@[simp] theorem holdTime_setSt (s : Sess) (v : St) : (s.setSt v).holdTime = s.holdTime := by
  unfold Sess.setSt; split <;> rfl
@[simp] theorem holdTime_writeOn (s : Sess) (i : Nat) (b : Bytes) : (s.writeOn i b).holdTime = s.holdTime := by
  unfold writeOn; split <;> rfl
@[simp] theorem holdTime_connectTcp (s : Sess) : s.connectTcp.holdTime = s.holdTime := by
  unfold connectTcp; split <;> simp [withConns]
@[simp] theorem holdTime_sendNotification (s : Sess) (e sub : Nat) (d : Bytes) : (s.sendNotification e sub d).holdTime = s.holdTime := by
  unfold sendNotification; split
  · rfl
  · split <;> simp
@[simp] theorem holdTime_sendKeepalive (s : Sess) : (s.sendKeepalive).holdTime = s.holdTime := by
  unfold sendKeepalive; split <;> simp
@[simp] theorem holdTime_closeOn (s : Sess) (i : Nat) : (s.closeOn i).holdTime = s.holdTime := by
  unfold closeOn; split
  · simp
  · split <;> simp
@[simp] theorem holdTime_closeConn (s : Sess) : (s.closeConn).holdTime = s.holdTime := by
  unfold closeConn; split <;> simp


-- (the scalar part of `Frm i` is the same for every `i`)
@[simp] theorem now_sendNotification (s : Sess) (e sub : Nat) (d : Bytes) : (s.sendNotification e sub d).now = s.now :=
  (frm_sendNotification 0 s e sub d).scal.now
@[simp] theorem cfg_sendNotification (s : Sess) (e sub : Nat) (d : Bytes) : (s.sendNotification e sub d).cfg = s.cfg :=
  (frm_sendNotification 0 s e sub d).scal.cfg

@[simp] theorem tm_errorClose (s : Sess) :
    (s.errorClose).tm = { retry := none, hold := none, keepalive := none, idleHold := some s.idleDeadline } := by
  unfold errorClose; simp
@[simp] theorem holdTime_errorClose (s : Sess) : (s.errorClose).holdTime = s.holdTime := by
  unfold errorClose; simp

theorem idleDeadline_sendNotification (s : Sess) (e sub : Nat) (d : Bytes) :
    (s.sendNotification e sub d).idleDeadline = s.idleDeadline := by
  simp [idleDeadline]

@[simp] theorem tm_headerError (s : Sess) (sub : Nat) (d : Bytes) :
    (s.headerError sub d).tm = { retry := none, hold := none, keepalive := none, idleHold := some s.idleDeadline } := by
  unfold headerError; simp [idleDeadline_sendNotification]
@[simp] theorem tm_openMessageError (s : Sess) (sub : Nat) :
    (s.openMessageError sub).tm = { retry := none, hold := none, keepalive := none, idleHold := some s.idleDeadline } := by
  unfold openMessageError; simp [idleDeadline_sendNotification]
@[simp] theorem holdTime_headerError (s : Sess) (sub : Nat) (d : Bytes) : (s.headerError sub d).holdTime = s.holdTime := by
  unfold headerError; simp
@[simp] theorem holdTime_openMessageError (s : Sess) (sub : Nat) : (s.openMessageError sub).holdTime = s.holdTime := by
  unfold openMessageError; simp
@[simp] theorem holdTime_restartHold (s : Sess) : (s.restartHold).holdTime = s.holdTime := by
  unfold restartHold; split <;> simp

@[simp] theorem now_emit (s : Sess) (o : Out) : (s.emit o).now = s.now := rfl
@[simp] theorem now_withSt (s : Sess) (v : St) : (s.withSt v).now = s.now := rfl
@[simp] theorem now_withTm (s : Sess) (v : Timers) : (s.withTm v).now = s.now := rfl
@[simp] theorem now_withHoldTime (s : Sess) (v : Nat) : (s.withHoldTime v).now = s.now := rfl
@[simp] theorem now_withRemote (s : Sess) (v : CapaDict) : (s.withRemote v).now = s.now := rfl
@[simp] theorem now_withRetryCounter (s : Sess) (v : Nat) : (s.withRetryCounter v).now = s.now := rfl
@[simp] theorem now_incRetryCounter (s : Sess) : (s.incRetryCounter).now = s.now := rfl
@[simp] theorem now_setRetry (s : Sess) (v : Option Nat) : (s.setRetry v).now = s.now := rfl
@[simp] theorem now_setHold (s : Sess) (v : Option Nat) : (s.setHold v).now = s.now := rfl
@[simp] theorem now_setKeepalive (s : Sess) (v : Option Nat) : (s.setKeepalive v).now = s.now := rfl
@[simp] theorem now_setIdleHold (s : Sess) (v : Option Nat) : (s.setIdleHold v).now = s.now := rfl
@[simp] theorem now_setConn (s : Sess) (i : Nat) (c : Conn) : (s.setConn i c).now = s.now := rfl
@[simp] theorem now_setAsn4 (s : Sess) (i : Nat) : (s.setAsn4 i).now = s.now := rfl
@[simp] theorem now_bumpSent (s : Sess) (i : Nat) (g : Stats → Stats) : (s.bumpSent i g).now = s.now := rfl
@[simp] theorem now_bumpRecv (s : Sess) (i : Nat) (g : Stats → Stats) : (s.bumpRecv i g).now = s.now := rfl
@[simp] theorem now_writeOn (s : Sess) (i : Nat) (b : Bytes) : (s.writeOn i b).now = s.now := by
  unfold writeOn; split <;> rfl
@[simp] theorem now_connectTcp (s : Sess) : s.connectTcp.now = s.now := by unfold connectTcp; split <;> simp [withConns]
@[simp] theorem now_setSt (s : Sess) (v : St) : (s.setSt v).now = s.now := (frm_setSt 0 s v).scal.now
@[simp] theorem now_sendKeepalive (s : Sess) : (s.sendKeepalive).now = s.now := (frm_sendKeepalive 0 s).scal.now
@[simp] theorem now_closeConn (s : Sess) : (s.closeConn).now = s.now := (frm_closeConn 0 s).scal.now
@[simp] theorem now_errorClose (s : Sess) : (s.errorClose).now = s.now := (frm_errorClose 0 s).scal.now
@[simp] theorem now_restartHold (s : Sess) : (s.restartHold).now = s.now := (frm_restartHold 0 s).scal.now
@[simp] theorem now_headerError (s : Sess) (sub : Nat) (d : Bytes) : (s.headerError sub d).now = s.now :=
  (frm_headerError 0 s sub d).scal.now
@[simp] theorem now_openMessageError (s : Sess) (sub : Nat) : (s.openMessageError sub).now = s.now :=
  (frm_openMessageError 0 s sub).scal.now

end Sess
end Yabgp
