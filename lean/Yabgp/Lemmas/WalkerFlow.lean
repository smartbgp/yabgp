/-
  C08 for the flow-specification constructors.  First the operator lists `construct_operators` writes
  (Model/Mp/Flowspec.lean; the repaired IPv6 class has the same code): they are accepted by the walker's `opList`,
  every item an operator octet and a value of `1 << len` octets, the end-of-list bit on the last item and on no
  other.  Then components, rules and rule lists, for IPv4 (Model/Mp/Flowspec.lean) and IPv6 (Model/Construct/Flow.lean).
-/
import Yabgp.Lemmas.WalkerLemmas
import Yabgp.Model.Construct.Flow

namespace Yabgp.Walker
open Yabgp.Flowspec

theorem opList_mono : ∀ (n m : Nat) (b x : Bytes), n ≤ m → opList n b = some x → opList m b = some x := by
  intro n
  induction n with
  | zero => intro m b x _ h; cases b <;> simp [opList] at h
  | succ n ih =>
    intro m b x hnm h
    obtain ⟨m', rfl⟩ : ∃ m', m = m' + 1 := ⟨m - 1, by omega⟩
    cases b with
    | nil => simp [opList] at h
    | cons op r =>
      simp only [opList] at h ⊢
      cases hs : skip (2 ^ (op.toNat / 16 % 4)) r with
      | none => simp [hs] at h
      | some r' =>
        simp only [hs] at h ⊢
        split
        · rename_i he; simpa [he] using h
        · rename_i he
          simp only [he, ↓reduceIte] at h
          exact ih m' r' x (by omega) h

def IsItem (eol : Bool) (it : Bytes) : Prop :=
  ∃ (op : UInt8) (v : Bytes), it = op :: v ∧ v.length = 2 ^ (op.toNat / 16 % 4) ∧ (op.toNat / 128 = 1 ↔ eol = true)

theorem opList_item_more (it r : Bytes) (n : Nat) (h : IsItem false it) :
    opList (n + 1) (it ++ r) = opList n r := by
  obtain ⟨op, v, rfl, hv, he⟩ := h
  have he' : ¬ op.toNat / 128 = 1 := by simpa using he
  simp only [List.cons_append, opList, skip_eq v r hv, he', ↓reduceIte]

theorem opList_item_last (it r : Bytes) (n : Nat) (h : IsItem true it) : opList (n + 1) (it ++ r) = some r := by
  obtain ⟨op, v, rfl, hv, he⟩ := h
  have he' : op.toNat / 128 = 1 := by simpa using he
  simp only [List.cons_append, opList, skip_eq v r hv, he', ↓reduceIte]

/-- items without end-of-list bit: `opList` walks through them -/
def NoEol (b : Bytes) : Prop :=
  ∀ (n : Nat) (r x : Bytes), opList n r = some x → opList (n + b.length) (b ++ r) = some x

/-- ... followed by one item with the bit: a complete operator list -/
def Final (b : Bytes) : Prop := b ≠ [] ∧ ∀ (r : Bytes) (n : Nat), b.length ≤ n → opList n (b ++ r) = some r

theorem NoEol.nil : NoEol [] := fun n r x h => by simpa using h

theorem NoEol.snoc {a it : Bytes} (ha : NoEol a) (hi : IsItem false it) : NoEol (a ++ it) := by
  intro n r x h
  have h1 : opList (n + 1) (it ++ r) = some x := by rw [opList_item_more it r n hi]; exact h
  have hl : 1 ≤ it.length := by obtain ⟨op, v, rfl, _, _⟩ := hi; simp
  have h2 := opList_mono (n + 1) (n + it.length) (it ++ r) x (by omega) h1
  have := ha (n + it.length) (it ++ r) x h2
  simpa [List.append_assoc, Nat.add_assoc, Nat.add_comm it.length] using this

theorem Final.of_snoc {a it : Bytes} (ha : NoEol a) (hi : IsItem true it) : Final (a ++ it) := by
  refine ⟨?_, fun r n hn => ?_⟩
  · obtain ⟨op, v, rfl, _, _⟩ := hi; simp
  · have hl : 1 ≤ it.length := by obtain ⟨op, v, rfl, _, _⟩ := hi; simp
    simp only [List.length_append] at hn
    obtain ⟨k, rfl⟩ : ∃ k, n = (k + 1) + a.length := ⟨n - a.length - 1, by omega⟩
    have h1 : opList (k + 1) (it ++ r) = some r := opList_item_last it r k hi
    have := ha (k + 1) (it ++ r) r h1
    simpa [List.append_assoc] using this

theorem valLen_cases (v n : Nat) (h : valLen v = some n) : n = 1 ∨ n = 2 ∨ n = 4 ∨ n = 8 := by
  unfold valLen at h
  repeat' split at h
  all_goals simp only [Option.some.injEq, reduceCtorEq] at h
  all_goals omega

/-- the length code sits in bits 4 and 5 of the operator octet and announces `1 << code` value octets -/
theorem valLen_lenCode (v n : Nat) (h : valLen v = some n) :
    lenCode n % 16 = 0 ∧ lenCode n < 64 ∧ 2 ^ (lenCode n / 16) = n := by
  rcases valLen_cases v n h with rfl | rfl | rfl | rfl <;> decide

theorem b2n_le (b : Bool) : b2n b ≤ 1 := by cases b <;> decide

theorem coItem_spec (eol and : Bool) (st st' : CoSt) (d : List Char) (h : coItem eol and st d = some st') :
    ∃ it, st'.out = st.out ++ it ∧ IsItem eol it := by
  unfold coItem at h
  split at h
  · cases h
  · split at h
    · cases h
    · rename_i o eq gt lt _
      split at h
      · cases h
      · rename_i v _
        split at h
        · cases h
        · rename_i n hn
          cases h
          -- the operator octet is 128 e + 64 a + lenCode n + 4 lt + 2 gt + eq: five bits and a multiple of 16 below 64
          obtain ⟨h16, h64, hpow⟩ := valLen_lenCode v n hn
          have := b2n_le eol; have := b2n_le and; have := b2n_le lt; have := b2n_le gt; have := b2n_le eq
          refine ⟨_, rfl, _, _, rfl, ?_, ?_⟩
          · rw [beN_length, u8_toNat (by omega)]
            refine hpow.symm.trans (congrArg _ ?_)
            omega
          · rw [u8_toNat (by omega), ← show b2n eol = 1 ↔ eol = true by cases eol <;> decide]
            omega

/-- the '&' loop: items without the bit, and - in the last '|' group - the bit on the last item -/
theorem coAnd_spec (lastOr : Bool) : ∀ (ds : List (List Char)) (first : Bool) (st st' : CoSt),
    coAnd lastOr first st ds = some st' →
    ∃ t, st'.out = st.out ++ t ∧
      (∀ a, NoEol a → if lastOr = true ∧ ds ≠ [] then Final (a ++ t) else NoEol (a ++ t)) := by
  intro ds
  induction ds with
  | nil =>
    intro first st st' h
    simp [coAnd] at h; subst h
    exact ⟨[], by simp, fun a ha => by simpa using ha⟩
  | cons d r ih =>
    intro first st st' h
    simp only [coAnd] at h
    cases h1 : coItem (lastOr && r.isEmpty) (!first) st d with
    | none => simp [h1] at h
    | some st1 =>
      simp only [h1] at h
      obtain ⟨it, hout, hit⟩ := coItem_spec _ _ st st1 d h1
      obtain ⟨t, hout2, ht⟩ := ih false st1 st' h
      refine ⟨it ++ t, by rw [hout2, hout, List.append_assoc], fun a ha => ?_⟩
      cases r with
      | nil =>
        simp [coAnd] at h; subst h
        have ht0 : t = [] := by simpa [hout] using hout2
        subst ht0
        cases lastOr with
        | true => simpa using Final.of_snoc ha (by simpa using hit)
        | false => simpa using NoEol.snoc ha (by simpa using hit)
      | cons d2 r2 =>
        have hit' : IsItem false it := by simpa using hit
        have := ht (a ++ it) (NoEol.snoc ha hit')
        cases lastOr <;> simpa [List.append_assoc] using this

theorem splitAll_ne_nil (sep : Char) (s : List Char) : Text.splitAll sep s ≠ [] := by
  rw [Text.splitAll]
  split <;> simp

theorem coOr_spec : ∀ (gs : List (List Char)) (st st' : CoSt), coOr st gs = some st' →
    ∃ t, st'.out = st.out ++ t ∧ (∀ a, NoEol a → if gs ≠ [] then Final (a ++ t) else NoEol (a ++ t)) := by
  intro gs
  induction gs with
  | nil =>
    intro st st' h
    simp [coOr] at h; subst h
    exact ⟨[], by simp, fun a ha => by simpa using ha⟩
  | cons g r ih =>
    intro st st' h
    simp only [coOr] at h
    cases h1 : coAnd r.isEmpty true st (Text.splitAll '&' g) with
    | none => simp [h1] at h
    | some st1 =>
      simp only [h1] at h
      obtain ⟨t1, hout1, ht1⟩ := coAnd_spec r.isEmpty (Text.splitAll '&' g) true st st1 h1
      obtain ⟨t2, hout2, ht2⟩ := ih st1 st' h
      refine ⟨t1 ++ t2, by rw [hout2, hout1, List.append_assoc], fun a ha => ?_⟩
      have hne := splitAll_ne_nil '&' g
      cases r with
      | nil =>
        simp [coOr] at h; subst h
        have ht0 : t2 = [] := by simpa [hout1] using hout2
        subst ht0
        have := ht1 a ha
        simpa [hne] using this
      | cons g2 r2 =>
        have h1' := ht1 a ha
        simp only [List.isEmpty_cons, Bool.false_eq_true, false_and, ↓reduceIte] at h1'
        have := ht2 (a ++ t1) h1'
        simpa [List.append_assoc] using this

theorem constructOperators_final (text : List Char) (b : Bytes) (h : constructOperators text = some b) : Final b := by
  unfold constructOperators at h
  cases hc : coOr { off := none, out := [] } (Text.splitAll '|' text) with
  | none => simp [hc] at h
  | some st' =>
    simp [hc] at h; subst h
    obtain ⟨t, hout, ht⟩ := coOr_spec _ _ st' hc
    have := ht [] NoEol.nil
    simp only [splitAll_ne_nil, ne_eq, not_false_eq_true, ↓reduceIte, List.nil_append] at this
    simpa [hout] using this

end Yabgp.Walker

namespace Yabgp.Walker
open Yabgp.Flowspec

theorem seq_opComp (v6 : Bool) (t : Nat) (ops : Bytes) (ht : 3 ≤ t ∧ t ≤ 12 ∨ (v6 = true ∧ t = 13)) (hf : Final ops) :
    Seq (flowComp v6) (u8 t :: ops) := by
  have ht' : (u8 t).toNat = t := u8_toNat (by omega)
  refine Seq.single (by simp) (fun r => ?_)
  have hrange : 3 ≤ t ∧ t ≤ (if v6 = true then 13 else 12) := by
    rcases ht with h | ⟨h1, h2⟩
    · cases v6 <;> simp <;> omega
    · subst h1; subst h2; simp
  have h12 : ¬ (t = 1 ∨ t = 2) := by omega
  simp only [List.cons_append, flowComp, ht', h12, ↓reduceIte, hrange, and_self]
  exact hf.2 r _ (by simp)

theorem seq_pfxComp4 (t addr len : Nat) (b : Bytes) (ht : t = 1 ∨ t = 2) (hl : len ≤ 32)
    (h : Flowspec.constructPrefix addr len = some b) : Seq (flowComp false) (u8 t :: b) := by
  simp only [Flowspec.constructPrefix, Option.ite_none_right_eq_some, Option.some.injEq] at h
  obtain ⟨_, rfl⟩ := h
  refine Seq.single (by simp) (fun r => ?_)
  simp only [List.cons_append, flowComp, u8_toNat (show t < 256 by omega), ht, ↓reduceIte, Bool.false_eq_true,
    prefixItem, u8_toNat (show len < 256 by omega), hl]
  refine skip_eq _ _ ?_
  rw [pfxKeep_eq hl]
  simp [ceil8]; omega

theorem concatOpt_eq : concatOpt = Mp.encAll id := by
  funext xs
  induction xs with
  | nil => rfl
  | cons x r ih => simp only [concatOpt, Mp.encAll, ih, id]; rfl

/-- `construct_nlri` of both classes: the length field - 1 octet below 240, else `0xf000 + length` in 2 octets - and
    the components -/
theorem seq_flowLen (v6 : Bool) (body b : Bytes) (hb : Seq (flowComp v6) body)
    (h : (if body.length ≥ 240 then
            (if 61440 + body.length < 65536 then some (some (be16 (61440 + body.length) ++ body)) else none)
          else some (some (u8 body.length :: body))) = some (some b)) : Seq (flowItem v6) b := by
  have hb := hb.all
  split at h
  · rename_i h240
    simp only [Option.ite_none_right_eq_some, Option.some.injEq] at h
    obtain ⟨hlt, rfl⟩ := h
    refine Seq.single (by simp [be16]) (fun r => ?_)
    have h1 : (u8 ((61440 + body.length) / 256)).toNat = 240 + body.length / 256 := by
      rw [u8_toNat (by omega)]; omega
    have h2 : (u8 (61440 + body.length)).toNat = body.length % 256 := by
      rw [u8_toNat_mod]; omega
    have hlen : (240 + body.length / 256) % 16 * 256 + body.length % 256 = body.length := by omega
    simp only [be16, List.cons_append, List.nil_append, flowItem, h1, h2,
      show ¬ (240 + body.length / 256 < 240) by omega, ↓reduceIte, hlen, List.take_left', List.drop_left', hb]
    simp
  · rename_i hl
    simp only [Option.some.injEq] at h
    subst h
    refine Seq.single (by simp) (fun r => ?_)
    simp only [List.cons_append, flowItem, u8_toNat (show body.length < 256 by omega),
      show body.length < 240 by omega, ↓reduceIte, List.take_left', List.drop_left', hb]
    simp

theorem seq_constructPfxComp (d : Rule) (t : Nat) (ht : t = 1 ∨ t = 2) (hg : pfxLenOk d t = true) (c : Bytes)
    (hc : constructPfxComp d t = some c) : Seq (flowComp false) c := by
  unfold constructPfxComp at hc
  unfold pfxLenOk at hg
  split at hc
  · cases hc; exact Seq.nil _
  · rename_i a l hd
    simp only [Option.map_eq_some_iff] at hc
    obtain ⟨pb, hp, rfl⟩ := hc
    exact seq_pfxComp4 t a l pb ht (by simpa [hd] using hg) hp
  · cases hc; exact Seq.nil _
  · cases hc

theorem seq_constructOpComp (d : Rule) (t : Nat) (ht : 3 ≤ t ∧ t ≤ 12) (c : Bytes)
    (hc : constructOpComp d t = some c) : Seq (flowComp false) c := by
  unfold constructOpComp at hc
  split at hc
  · cases hc; exact Seq.nil _
  · cases hc; exact Seq.nil _
  · simp only [Option.map_eq_some_iff] at hc
    obtain ⟨ob, ho, rfl⟩ := hc
    exact seq_opComp false t ob (Or.inl ht) (constructOperators_final _ ob ho)
  · cases hc

theorem seq_constructRuleBody (d : Rule) (hg : ruleGuard d = true) (b : Bytes) (h : constructRuleBody d = some b) :
    Seq (flowComp false) b := by
  unfold constructRuleBody at h
  refine encAll_seq id _ (fun x hx c hc => ?_) b (concatOpt_eq ▸ h)
  simp only [ruleGuard, Bool.and_eq_true] at hg
  simp only [List.mem_append, List.mem_map] at hx
  rcases hx with ⟨t, ht, rfl⟩ | ⟨t, ht, rfl⟩
  · have ht' : t = 1 ∨ t = 2 := by simpa [Flowspec.pfxTypes] using ht
    refine seq_constructPfxComp d t ht' ?_ c hc
    rcases ht' with rfl | rfl
    · exact hg.1
    · exact hg.2
  · refine seq_constructOpComp d t ?_ c hc
    simp only [Flowspec.opTypes, List.mem_cons, List.not_mem_nil, or_false] at ht
    omega

theorem seq_constructNlri (d : Rule) (hg : ruleGuard d = true) (b : Bytes) (h : constructNlri d = some (some b)) :
    Seq (flowItem false) b := by
  unfold constructNlri at h
  split at h
  · cases h
  · cases h
  · rename_i body _ hb
    exact seq_flowLen false body b (seq_constructRuleBody d hg body hb) h

theorem constructRules_eq : constructRules = Mp.encAll fun d => (constructNlri d).join := by
  funext rules
  induction rules with
  | nil => rfl
  | cons d r ih =>
    simp only [constructRules, Mp.encAll, ih]
    rcases constructNlri d with _ | _ | a <;> cases Mp.encAll _ r <;> rfl

theorem seq_constructRules (rules : List Rule) (hg : rules.all ruleGuard = true) (b : Bytes)
    (h : constructRules rules = some b) : Seq (flowItem false) b :=
  encAll_seq _ rules (fun d hd a ha => seq_constructNlri d (List.all_eq_true.mp hg d hd) a
    (Option.join_eq_some_iff.mp ha)) b (constructRules_eq ▸ h)

end Yabgp.Walker

namespace Yabgp.Walker
open Yabgp.Flow6

theorem seq_pfxComp6 (t : Nat) (addr : Mp.Ip) (len offset : Int) (b : Bytes) (ht : t = 1 ∨ t = 2)
    (h : constructPrefix6 addr len offset = some b) : Seq (flowComp true) (u8 t :: b) := by
  unfold constructPrefix6 at h
  split at h
  · cases h
  · simp only [Option.ite_none_right_eq_some, Option.some.injEq] at h
    obtain ⟨⟨_, h0, h1, h2⟩, rfl⟩ := h
    obtain ⟨l, rfl⟩ : ∃ l : Nat, len = l := ⟨len.toNat, by omega⟩
    obtain ⟨o, rfl⟩ : ∃ o : Nat, offset = o := ⟨offset.toNat, by omega⟩
    refine Seq.single (by simp) (fun r => ?_)
    simp only [Int.toNat_natCast, be8, List.cons_append, List.nil_append, flowComp, u8_toNat (show t < 256 by omega),
      ht, ↓reduceIte, prefix6Comp, u8_toNat (show l < 256 by omega), u8_toNat (show o < 256 by omega),
      show o ≤ l by omega, show l ≤ 128 by omega, and_self]
    exact skip_eq _ _ (by simp [pattern, ceil8])

theorem seq_pfxComp (d : Rule6) (t : Nat) (ht : t = 1 ∨ t = 2) (c : Bytes) (hc : pfxComp d t = some c) :
    Seq (flowComp true) c := by
  unfold pfxComp at hc
  split at hc
  · cases hc; exact Seq.nil _
  · simp only [Option.map_eq_some_iff] at hc
    obtain ⟨pb, hp, rfl⟩ := hc
    exact seq_pfxComp6 t _ _ _ pb ht hp
  · cases hc; exact Seq.nil _
  · cases hc

theorem seq_opComp6 (d : Rule6) (t : Nat) (ht : 3 ≤ t ∧ t ≤ 13) (c : Bytes) (hc : opComp d t = some c) :
    Seq (flowComp true) c := by
  unfold opComp at hc
  split at hc
  · cases hc; exact Seq.nil _
  · cases hc; exact Seq.nil _
  · simp only [Option.map_eq_some_iff] at hc
    obtain ⟨ob, ho, rfl⟩ := hc
    refine seq_opComp true t ob ?_ (constructOperators_final _ ob ho)
    by_cases h13 : t = 13
    · exact Or.inr ⟨rfl, h13⟩
    · exact Or.inl (by omega)
  · cases hc

theorem seq_ruleBody6 (d : Rule6) (b : Bytes) (h : ruleBody d = some b) : Seq (flowComp true) b := by
  unfold ruleBody at h
  refine encAll_seq id _ (fun x hx c hc => ?_) b (concatOpt_eq ▸ h)
  simp only [List.mem_append, List.mem_map] at hx
  rcases hx with ⟨t, ht, rfl⟩ | ⟨t, ht, rfl⟩
  · exact seq_pfxComp d t (by simpa [Flow6.pfxTypes] using ht) c hc
  · refine seq_opComp6 d t ?_ c hc
    simp only [Flow6.opTypes, List.mem_cons, List.not_mem_nil, or_false] at ht
    omega

theorem seq_constructNlri6 (d : Rule6) (b : Bytes) (h : constructNlri6 d = some (some b)) :
    Seq (flowItem true) b := by
  unfold constructNlri6 at h
  split at h
  · cases h
  · cases h
  · rename_i body _ hb
    exact seq_flowLen true body b (seq_ruleBody6 d body hb) h

theorem constructRules6_eq : constructRules6 = Mp.encAll fun d => (constructNlri6 d).join := by
  funext rules
  induction rules with
  | nil => rfl
  | cons d r ih =>
    simp only [constructRules6, Mp.encAll, ih]
    rcases constructNlri6 d with _ | _ | a <;> cases Mp.encAll _ r <;> rfl

theorem seq_constructRules6 (rules : List Rule6) (b : Bytes) (h : constructRules6 rules = some b) :
    Seq (flowItem true) b :=
  encAll_seq _ rules (fun d _ a ha => seq_constructNlri6 d a (Option.join_eq_some_iff.mp ha)) b
    (constructRules6_eq ▸ h)

end Yabgp.Walker
