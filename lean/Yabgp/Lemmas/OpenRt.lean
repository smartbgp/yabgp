/-
  OPEN: the capability and parameter loops by their equations, and the capability value decoders on what the
  reference encoders of Spec/RfcOpen.lean write (C14; the loop equations also serve C15 and C08).
-/
import Yabgp.Spec.RfcOpen
import Yabgp.Lemmas.Basic

namespace Yabgp
open Spec

theorem capsLoop_nil (st : Nat × CapaDict) : capsLoop st [] = .ok st := by rw [capsLoop]

theorem capsLoop_cons (st : Nat × CapaDict) (c l : UInt8) (rest : Bytes) :
    capsLoop st (c :: l :: rest) =
      match applyCap st.1 st.2 c.toNat (rest.take l.toNat) with
      | .ok st' => capsLoop st' (rest.drop l.toNat)
      | .error e => .error e := by
  conv => lhs; rw [capsLoop]
  split <;> simp_all

theorem optParasLoop_nil (st : Nat × CapaDict) : optParasLoop st [] = .ok st := by rw [optParasLoop]

theorem optParasLoop_cons (st : Nat × CapaDict) (t l : UInt8) (rest : Bytes) :
    optParasLoop st (t :: l :: rest) =
      if t.toNat ≠ 2 then .error (.open C.openUnsupOptParam)
      else
        match capsLoop st (rest.take l.toNat) with
        | .ok st' => optParasLoop st' (rest.drop l.toNat)
        | .error e => .error e := by
  conv => lhs; rw [optParasLoop]
  split
  · rfl
  · split <;> simp_all

def rawCap (c : Nat × Bytes) : Bytes := [u8 c.1, u8 c.2.length] ++ c.2

def applyCaps (st : Nat × CapaDict) : List (Nat × Bytes) → Except OErr (Nat × CapaDict)
  | [] => .ok st
  | c :: r =>
    match applyCap st.1 st.2 c.1 c.2 with
    | .ok st' => applyCaps st' r
    | .error e => .error e

theorem capsLoop_append (caps : List (Nat × Bytes)) (b : Bytes) :
    ∀ st, (∀ c ∈ caps, c.1 < 256 ∧ c.2.length < 256) →
      capsLoop st (caps.flatMap rawCap ++ b) =
        match applyCaps st caps with
        | .ok st' => capsLoop st' b
        | .error e => .error e := by
  induction caps with
  | nil => intro st _; simp [applyCaps]
  | cons c r ih =>
    intro st h
    obtain ⟨hc, hl⟩ := h c (by simp)
    simp only [List.flatMap_cons, rawCap, List.cons_append, List.nil_append, List.append_assoc]
    rw [capsLoop_cons, u8_toNat hc, u8_toNat hl, List.take_left' rfl, List.drop_left' rfl]
    simp only [applyCaps]
    cases applyCap st.1 st.2 c.1 c.2 with
    | error e => rfl
    | ok st' =>
      have := ih st' (fun y hy => h y (by simp [hy]))
      simpa [rawCap] using this

theorem applyCaps_append (xs ys : List (Nat × Bytes)) (s : Nat × CapaDict) :
    applyCaps s (xs ++ ys) = match applyCaps s xs with
                              | .ok s' => applyCaps s' ys
                              | .error e => .error e := by
  induction xs generalizing s with
  | nil => rfl
  | cons x t ih =>
    simp only [List.cons_append, applyCaps]
    cases applyCap s.1 s.2 x.1 x.2 with
    | error e => rfl
    | ok s' => exact ih s'

/-- one optional parameter of type 2 holding capability TLVs -/
def rawParam (p : List (Nat × Bytes)) : Bytes := [2, u8 (p.flatMap rawCap).length] ++ p.flatMap rawCap

theorem optParasLoop_append (params : List (List (Nat × Bytes))) (b : Bytes) :
    ∀ st, (∀ p ∈ params, (∀ c ∈ p, c.1 < 256 ∧ c.2.length < 256) ∧ (p.flatMap rawCap).length < 256) →
      optParasLoop st (params.flatMap rawParam ++ b) =
        match applyCaps st params.flatten with
        | .ok st' => optParasLoop st' b
        | .error e => .error e := by
  induction params with
  | nil => intro st _; simp [applyCaps]
  | cons p r ih =>
    intro st h
    obtain ⟨hp, hl⟩ := h p (by simp)
    have hc := capsLoop_append p [] st hp
    simp only [List.append_nil] at hc
    simp only [List.flatMap_cons, rawParam, List.cons_append, List.nil_append, List.append_assoc, List.flatten_cons]
    rw [optParasLoop_cons, u8_toNat hl, if_neg (fun h => h rfl), List.take_left' rfl, List.drop_left' rfl, hc,
      applyCaps_append]
    cases applyCaps st p with
    | error e => rfl
    | ok st' =>
      simp only [capsLoop_nil]
      have := ih st' (fun y hy => h y (by simp [hy]))
      simpa [rawParam] using this

theorem addPath_step (acc : List (Nat × Nat × Nat)) (a s d : Nat) (rest : Bytes)
    (hafi : a < 65536) (hsafi : s < 256) (hd : d < 256) (hl : rest.length % 4 = 0) :
    addPathLoop acc (be16 a ++ be8 s ++ be8 d ++ rest) =
      addPathLoop (if Spec.addPathKnown (a, s, d) then acc ++ [(a, s, d)] else acc) rest := by
  have hl4 : (u8 (a / 256) :: u8 a :: u8 s :: u8 d :: rest).length % 4 = 0 :=
    (Nat.add_mod_right rest.length 4).trans hl
  simp only [be16, be8, List.cons_append, List.nil_append, Spec.addPathKnown, decide_eq_true_eq]
  rw [addPathLoop, if_pos hl4, be16_val hafi, u8_toNat hsafi, u8_toNat hd]
  split <;> rfl

theorem addPathLoop_enc (l : List (Nat × Nat × Nat)) :
    ∀ acc, (∀ t ∈ l, t.1 < 65536 ∧ t.2.1 < 256 ∧ t.2.2 < 256) →
      addPathLoop acc (l.flatMap fun t => be16 t.1 ++ be8 t.2.1 ++ be8 t.2.2) = .ok (acc ++ l.filter Spec.addPathKnown) := by
  induction l with
  | nil => intro acc _; simp [addPathLoop]
  | cons t r ih =>
    intro acc h
    obtain ⟨hk, h1, h3⟩ := h t (by simp)
    rw [List.flatMap_cons]
    rw [addPath_step acc t.1 t.2.1 t.2.2 _ hk h1 h3 (by rw [length_flatMap_const 4 fun _ => rfl]; omega)]
    rw [ih _ (fun y hy => h y (by simp [hy]))]
    by_cases hkn : Spec.addPathKnown (t.1, t.2.1, t.2.2) = true
    · rw [if_pos hkn, List.filter_cons_of_pos (by simpa using hkn)]; simp
    · rw [if_neg hkn, List.filter_cons_of_neg (by simpa using hkn)]

theorem llgr_step (acc : List (Nat × Nat × Nat)) (a s f t : Nat) (rest : Bytes)
    (h1 : a < 65536) (h2 : s < 256) (h4 : t < 16777216) :
    llgrLoop acc (be16 a ++ be8 s ++ be8 f ++ be24 t ++ rest) = llgrLoop (acc ++ [(a, s, t)]) rest := by
  simp only [be16, be8, be24, List.cons_append, List.nil_append]
  rw [llgrLoop, be16_val h1, u8_toNat h2, be24_val h4]

theorem llgrLoop_enc (l : List (Nat × Nat × Nat × Nat)) :
    ∀ acc, (∀ t ∈ l, t.1 < 65536 ∧ t.2.1 < 256 ∧ t.2.2.1 < 256 ∧ t.2.2.2 < 16777216) →
      llgrLoop acc (l.flatMap fun t => be16 t.1 ++ be8 t.2.1 ++ be8 t.2.2.1 ++ be24 t.2.2.2)
        = acc ++ l.map (fun t => (t.1, t.2.1, t.2.2.2)) := by
  induction l with
  | nil => intro acc _; simp [llgrLoop]
  | cons t r ih =>
    intro acc h
    obtain ⟨h1, h2, _, h4⟩ := h t (by simp)
    rw [List.flatMap_cons, llgr_step acc _ _ _ _ _ h1 h2 h4]
    rw [ih _ (fun y hy => h y (by simp [hy]))]
    simp

theorem extNh_step (acc : List (Nat × Nat × Nat)) (a s n : Nat) (rest : Bytes)
    (h1 : a < 65536) (h2 : s < 65536) (h3 : n < 65536) :
    extNhLoop acc (be16 a ++ be16 s ++ be16 n ++ rest) = extNhLoop (acc ++ [(a, s, n)]) rest := by
  simp only [be16, List.cons_append, List.nil_append]
  rw [extNhLoop, be16_val h1, be16_val h2, be16_val h3]

theorem extNhLoop_enc (l : List (Nat × Nat × Nat)) :
    ∀ acc, (∀ t ∈ l, t.1 < 65536 ∧ t.2.1 < 65536 ∧ t.2.2 < 65536) →
      extNhLoop acc (l.flatMap fun t => be16 t.1 ++ be16 t.2.1 ++ be16 t.2.2) = .ok (acc ++ l) := by
  induction l with
  | nil => intro acc _; simp [extNhLoop]
  | cons t r ih =>
    intro acc h
    obtain ⟨h1, h2, h3⟩ := h t (by simp)
    rw [List.flatMap_cons, extNh_step acc _ _ _ _ h1 h2 h3]
    rw [ih _ (fun y hy => h y (by simp [hy]))]
    simp

theorem applyCap_ref (st : Nat × CapaDict) (c : Cap) (h : CapOk c) :
    applyCap st.1 st.2 c.code c.value = .ok (applyRef st c) := by
  cases c with
  | mp afi safi =>
    simp only [Cap.code, Cap.value, applyCap, be16, be8, List.cons_append, List.nil_append,
      Nat.reduceEqDiff, ↓reduceIte, applyRef, be16_val h.1, u8_toNat h.2]
  | as4 asn =>
    simp only [Cap.code, Cap.value, applyCap, applyRef, ↓reduceIte, unpackI_be32 (show asn < 4294967296 from h)]
  | addPath l =>
    simp only [Cap.code, Cap.value, applyCap, Nat.reduceEqDiff, ↓reduceIte, applyRef, addPathLoop_enc l _ h.1]
  | llgr l =>
    simp only [Cap.code, Cap.value, applyCap, Nat.reduceEqDiff, ↓reduceIte, applyRef,
      llgrLoop_enc l [] h.1, List.nil_append]
  | extNextHop l =>
    simp only [Cap.code, Cap.value, applyCap, Nat.reduceEqDiff, ↓reduceIte, applyRef,
      extNhLoop_enc l [] h.1, List.nil_append]
  | unknown code b =>
    -- `CapOk` says the code is none of the ten the decoder knows
    obtain ⟨_, h2, _⟩ := h
    simp only [List.mem_cons, List.not_mem_nil, or_false, not_or] at h2
    obtain ⟨a1, a2, a3, a4, a5, a6, a7, a8, a9, a10⟩ := h2
    simp only [Cap.code, Cap.value, applyCap, applyRef, a1, a2, a3, a4, a5, a6, a7, a8, a9, a10, ↓reduceIte]
  | _ => rfl

theorem capValue_length_lt (c : Cap) (h : CapOk c) : c.value.length < 256 := by
  cases c with
  | gracefulRestart b => exact h
  | ciscoMultiSession b => exact h
  | unknown code b => exact h.2.2
  | addPath l => rw [Cap.value, length_flatMap_const 4 fun _ => rfl]; have := h.2; omega
  | llgr l => rw [Cap.value, length_flatMap_const 7 fun _ => rfl]; have := h.2; omega
  | extNextHop l => rw [Cap.value, length_flatMap_const 6 fun _ => rfl]; have := h.2; omega
  | _ => simp [Cap.value]

theorem capCode_lt (c : Cap) (h : CapOk c) : c.code < 256 := by
  cases c with
  | unknown code b => exact h.1
  | _ => simp [Cap.code]

theorem applyCaps_ref (caps : List Cap) :
    ∀ st, (∀ c ∈ caps, CapOk c) → applyCaps st (caps.map fun c => (c.code, c.value)) = .ok (caps.foldl applyRef st) := by
  induction caps with
  | nil => intro st _; rfl
  | cons c r ih =>
    intro st h
    rw [List.map_cons, applyCaps, applyCap_ref st c (h c (by simp))]
    exact ih _ fun y hy => h y (by simp [hy])

theorem encCap_eq_rawCap (caps : List Cap) :
    caps.flatMap encCap = (caps.map fun c => (c.code, c.value)).flatMap rawCap := by
  rw [List.flatMap_map]; rfl

theorem capsLoop_enc (caps : List Cap) (st : Nat × CapaDict) (h : ∀ c ∈ caps, CapOk c) :
    capsLoop st (caps.flatMap encCap) = .ok (caps.foldl applyRef st) := by
  have := capsLoop_append (caps.map fun c => (c.code, c.value)) [] st
    (by simpa using fun c hc => ⟨capCode_lt c (h c hc), capValue_length_lt c (h c hc)⟩)
  rw [List.append_nil, ← encCap_eq_rawCap, applyCaps_ref caps st h] at this
  exact this.trans (capsLoop_nil _)

theorem optParasLoop_enc (params : List (List Cap)) (st : Nat × CapaDict)
    (h : ∀ p ∈ params, (∀ c ∈ p, CapOk c) ∧ (p.flatMap encCap).length < 256) :
    optParasLoop st (params.flatMap encParam) = .ok (params.flatten.foldl applyRef st) := by
  have he : params.flatMap encParam = (params.map (·.map fun c => (c.code, c.value))).flatMap rawParam := by
    rw [List.flatMap_map]; simp only [rawParam, ← encCap_eq_rawCap]; rfl
  have := optParasLoop_append (params.map (·.map fun c => (c.code, c.value))) [] st (by
    simp only [List.mem_map, forall_exists_index, and_imp, forall_apply_eq_imp_iff₂, ← encCap_eq_rawCap]
    exact fun p hp => ⟨fun c hc => ⟨capCode_lt c ((h p hp).1 c hc), capValue_length_lt c ((h p hp).1 c hc)⟩, (h p hp).2⟩)
  rw [List.append_nil, ← he, ← List.map_flatten, applyCaps_ref _ st fun c hc => by
    obtain ⟨p, hp, hcp⟩ := List.mem_flatten.mp hc; exact (h p hp).1 c hcp] at this
  exact this.trans (optParasLoop_nil _)

/-- The loop returns its start state on the empty string, so the shortcut Open.parse takes for a zero parameter length
    makes no difference. -/
theorem parseOpen_enc {fld hold bgpId : Nat} {P : Bytes} (hf : fld < 65536) (hf0 : fld ≠ 0) (hh : hold < 65536)
    (hi : bgpId < 4294967296) (hl : P.length < 256) :
    parseOpen (be8 4 ++ be16 fld ++ be16 hold ++ be32 bgpId ++ be8 P.length ++ P) =
      (optParasLoop (fld, {}) P).map fun st =>
        { version := 4, asn := st.1, holdTime := hold, bgpId := bgpId, caps := st.2 } := by
  simp only [be8, be16, be32, List.cons_append, List.nil_append, parseOpen]
  rw [be16_val hf, be16_val hh, be32_val hi, u8_toNat hl, if_neg (by decide), if_neg hf0]
  split
  · rename_i h0; rw [List.eq_nil_of_length_eq_zero h0, optParasLoop_nil]; rfl
  · cases optParasLoop (fld, {}) P <;> rfl

end Yabgp
