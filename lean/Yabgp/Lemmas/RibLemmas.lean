/-
  Helper lemmas for C19: dictionary algebra, the loops of Model/Rib.lean as lists of elementary
  operations of Spec/RibSpec.lean, the version functions as record updates (from which what each of them
  leaves alone can be read off).
-/
import Yabgp.Model.Rib
import Yabgp.Spec.RibSpec

namespace Yabgp.Rib
open RibSpec (Op Side SEv runOps changes)

/-- the finite map a dictionary denotes -/
def abs (t : Table) : RibSpec.Table := fun k => t.get? k

def sideOf (tv : Table × Nat) : Side := { tbl := abs tv.1, ver := tv.2 }

namespace Table

@[simp] theorem get?_nil (x : Nat) : get? [] x = none := rfl

theorem get?_cons (k v : Nat) (t : Table) (x : Nat) :
    get? ((k, v) :: t) x = if k = x then some v else get? t x := rfl

theorem get?_replace (t : Table) (x y k : Nat) :
    (replace t x y).get? k = if k = x then (t.get? x).map (fun _ => y) else t.get? k := by
  induction t with
  | nil => simp [replace]
  | cons kv t ih =>
    obtain ⟨a, b⟩ := kv
    by_cases hax : a = x
    · subst hax
      by_cases hk : k = a
      · subst hk; simp [replace, get?_cons]
      · have : ¬ a = k := fun h => hk h.symm
        simp [replace, get?_cons, this, hk, ih]
    · by_cases hk : k = x
      · subst hk
        simp [replace, get?_cons, hax, ih]
      · by_cases hak : a = k
        · simp [replace, get?_cons, hak, hk]
        · simp [replace, get?_cons, hax, hak, hk, ih]

theorem get?_append_single (t : Table) (x y k : Nat) :
    (t ++ [(x, y)]).get? k = match t.get? k with
      | some v => some v
      | none => if x = k then some y else none := by
  induction t with
  | nil => simp [get?_cons]
  | cons kv t ih =>
    obtain ⟨a, b⟩ := kv
    by_cases hak : a = k
    · simp [get?_cons, hak]
    · simp [get?_cons, hak, ih]

theorem get?_set (t : Table) (x y k : Nat) :
    (t.set x y).get? k = if k = x then some y else t.get? k := by
  unfold set has
  cases hx : t.get? x with
  | none =>
    simp only [Option.isSome_none, Bool.false_eq_true, ↓reduceIte, get?_append_single]
    by_cases hk : k = x
    · subst hk; simp [hx]
    · have : ¬ x = k := fun h => hk h.symm
      cases t.get? k <;> simp [hk, this]
  | some v =>
    simp only [Option.isSome_some, ↓reduceIte, get?_replace, hx, Option.map_some]

theorem get?_pop (t : Table) (x k : Nat) :
    (t.pop x).get? k = if k = x then none else t.get? k := by
  unfold pop
  induction t with
  | nil => simp
  | cons kv t ih =>
    obtain ⟨a, b⟩ := kv
    by_cases hax : a = x
    · subst hax
      by_cases hk : k = a
      · subst hk; simpa [List.filter_cons] using ih
      · have : ¬ a = k := fun h => hk h.symm
        simpa [List.filter_cons, get?_cons, this, hk] using ih
    · by_cases hk : k = x
      · subst hk
        simpa [List.filter_cons, hax, get?_cons] using ih
      · by_cases hak : a = k
        · simp [get?_cons, hak, hk]
        · simpa [List.filter_cons, hax, get?_cons, hak, hk] using ih

theorem has_eq (t : Table) (x : Nat) : t.has x = (t.get? x).isSome := rfl

theorem has_set (t : Table) (x y k : Nat) : (t.set x y).has k = true ↔ k = x ∨ t.has k = true := by
  rw [has_eq, get?_set]; split <;> simp [*, has_eq]

theorem has_pop (t : Table) (x k : Nat) : (t.pop x).has k = true ↔ k ≠ x ∧ t.has k = true := by
  rw [has_eq, get?_pop]; split <;> simp [*, has_eq]

end Table

theorem abs_nil : abs [] = RibSpec.empty := rfl

theorem abs_set (t : Table) (x y : Nat) : abs (t.set x y) = (Op.announce x y).run (abs t) := by
  funext k; simp [abs, Op.run, Table.get?_set]

theorem abs_pop (t : Table) (x : Nat) : abs (t.pop x) = (Op.withdraw x).run (abs t) := by
  funext k; simp [abs, Op.run, Table.get?_pop]

theorem run_announce_same (t : RibSpec.Table) (k v : Nat) (h : t k = some v) :
    (Op.announce k v).run t = t := by
  funext p
  by_cases hp : p = k
  · subst hp; simp [Op.run, h]
  · simp [Op.run, hp]

theorem run_withdraw_absent (t : RibSpec.Table) (k : Nat) (h : t k = none) :
    (Op.withdraw k).run t = t := by
  funext p
  by_cases hp : p = k
  · subst hp; simp [Op.run, h]
  · simp [Op.run, hp]

theorem runOps_append (l1 l2 : List Op) (t : RibSpec.Table) :
    runOps (l1 ++ l2) t = runOps l2 (runOps l1 t) := by
  induction l1 generalizing t with
  | nil => rfl
  | cons op l1 ih => simp [runOps, ih]

theorem changes_append (l1 l2 : List Op) (t : RibSpec.Table) :
    changes (l1 ++ l2) t = changes l1 t + changes l2 (runOps l1 t) := by
  induction l1 generalizing t with
  | nil => simp [changes, runOps]
  | cons op l1 ih => simp [changes, runOps, ih, Nat.add_assoc]

theorem step_ops_nil (sd : Side) : sd.step (.ops []) = sd := rfl

theorem step_op (sd : Side) (op : Op) :
    sd.step (.ops [op]) = { tbl := op.run sd.tbl, ver := sd.ver + op.delta sd.tbl } := rfl

theorem step_ops_append (sd : Side) (l1 l2 : List Op) :
    (sd.step (.ops l1)).step (.ops l2) = sd.step (.ops (l1 ++ l2)) := by
  simp [Side.step, runOps_append, changes_append, Nat.add_assoc]

theorem sideOf_wdStep (tv : Table × Nat) (k : Nat) :
    sideOf (wdStep tv k) = (sideOf tv).step (.ops [Op.withdraw k]) := by
  unfold wdStep
  cases h : tv.1.get? k with
  | none => simp [Table.has_eq, h, step_op, sideOf, Op.delta, abs, run_withdraw_absent (abs tv.1) k h]
  | some v => simp [Table.has_eq, h, step_op, sideOf, Op.delta, abs_pop, abs]

/-- the IPv4 announce body always assigns; it counts exactly when the assignment changes the denoted map -/
theorem annStepIpv4_eq (a : Nat) (tv : Table × Nat) (k : Nat) :
    annStepIpv4 a tv k = (tv.1.set k a, tv.2 + (Op.announce k a).delta (abs tv.1)) := by
  unfold annStepIpv4
  cases h : tv.1.get? k with
  | none => simp [Table.has_eq, h, Op.delta, abs]
  | some v => by_cases hv : v = a <;> simp [Table.has_eq, h, hv, Op.delta, abs]

theorem sideOf_annStepIpv4 (a : Nat) (tv : Table × Nat) (k : Nat) :
    sideOf (annStepIpv4 a tv k) = (sideOf tv).step (.ops [Op.announce k a]) := by
  rw [annStepIpv4_eq, step_op, sideOf, abs_set]; rfl

/-- the MP announce body differs from the IPv4 one only in not re-assigning an equal value, which the
    denoted map does not show -/
theorem sideOf_annStepMp (tv : Table × Nat) (kv : Nat × Nat) :
    sideOf (annStepMp tv kv) = (sideOf tv).step (.ops [Op.announce kv.1 kv.2]) := by
  rw [← sideOf_annStepIpv4]
  unfold annStepMp annStepIpv4
  split
  · rfl
  · split
    · next h =>
      exact congrArg (Side.mk · tv.2)
        ((abs_set tv.1 kv.1 kv.2).trans (run_announce_same _ _ _ (eq_of_beq h))).symm
    · rfl

theorem sideOf_foldl {α : Type} (f : Table × Nat → α → Table × Nat) (g : α → Op)
    (h : ∀ tv a, sideOf (f tv a) = (sideOf tv).step (.ops [g a])) (l : List α) (tv : Table × Nat) :
    sideOf (l.foldl f tv) = (sideOf tv).step (.ops (l.map g)) := by
  induction l generalizing tv with
  | nil => rfl
  | cons a l ih => rw [List.foldl_cons, ih, h, step_ops_append]; rfl

/-- the two IPv4 loops of update_rib_out_ipv4 (and, without the tree, of update_rib_in_ipv4) -/
theorem sideOf_ipv4Loops (a : Nat) (wd nl : List Nat) (tv : Table × Nat) :
    sideOf (nl.foldl (annStepIpv4 a) (wd.foldl wdStep tv)) =
      (sideOf tv).step (.ops (RibSpec.ipv4Ops wd nl a)) := by
  rw [sideOf_foldl _ _ (sideOf_annStepIpv4 a), sideOf_foldl _ _ sideOf_wdStep, step_ops_append]; rfl

/-- what update_receive_verion / update_send_version do to the dictionary and counter of one family:
    the MP_REACH loop, then the MP_UNREACH loop -/
def mpLoops (reach : List (Nat × Nat)) (unreach : List Nat) (tv : Table × Nat) : Table × Nat :=
  unreach.foldl wdStep (reach.foldl annStepMp tv)

theorem sideOf_mpLoops (reach : List (Nat × Nat)) (unreach : List Nat) (tv : Table × Nat) :
    sideOf (mpLoops reach unreach tv) = (sideOf tv).step (.ops (RibSpec.mpOps reach unreach)) := by
  unfold mpLoops
  rw [sideOf_foldl _ _ sideOf_wdStep, sideOf_foldl _ _ sideOf_annStepMp, step_ops_append]; rfl

/-- the radix tree is carried along without influencing dictionary and counter -/
theorem ribInLoops_fst (s : State) (m : Msg) :
    (ribInLoops s m).1 = m.nlri.foldl (annStepIpv4 m.attr) (m.withdraw.foldl wdStep (s.ribIn, s.recvVer.ipv4)) := by
  have hw : ∀ x p, wdStep x.1 p = (ribInWdStep x p).1 := by
    intro x p; unfold ribInWdStep wdStep; split <;> rfl
  unfold ribInLoops
  -- each fold over ((table, counter), tree), projected to its first component, is the fold without the tree
  rw [← List.foldl_hom Prod.fst (g₂ := annStepIpv4 m.attr) fun _ _ => rfl, ← List.foldl_hom Prod.fst hw]

def inIpv4 (s : State) : Side := sideOf (s.ribIn, s.recvVer.ipv4)
def outIpv4 (s : State) : Side := sideOf (s.ribOut, s.sendVer.ipv4)
def fsRecvSide (s : State) : Side := sideOf (s.fsRecv, s.recvVer.flowspec)
def vpnRecvSide (s : State) : Side := sideOf (s.vpnRecv, s.recvVer.mplsVpn)
def srRecvSide (s : State) : Side := sideOf (s.srRecv, s.recvVer.srPolicy)
def fsSendSide (s : State) : Side := sideOf (s.fsSend, s.sendVer.flowspec)
def vpnSendSide (s : State) : Side := sideOf (s.vpnSend, s.sendVer.mplsVpn)
def srSendSide (s : State) : Side := sideOf (s.srSend, s.sendVer.srPolicy)

def reachFs : Option Reach → List (Nat × Nat)
  | some (.flowspec r) => r
  | _ => []
def reachVpn : Option Reach → List (Nat × Nat)
  | some (.mplsVpn r) => r
  | _ => []
/-- the sr-policy announcement stores the whole attribute dictionary `a` -/
def reachSr (a : Nat) : Option Reach → List (Nat × Nat)
  | some (.srPolicy k) => [(k, a)]
  | _ => []
def unreachFs : Option Unreach → List Nat
  | some (.flowspec k) => k
  | _ => []
def unreachVpn : Option Unreach → List Nat
  | some (.mplsVpn k) => k
  | _ => []
def unreachSr : Option Unreach → List Nat
  | some (.srPolicy k) => [k]
  | _ => []

def Msg.ipv4Ops (m : Msg) : List Op := RibSpec.ipv4Ops m.withdraw m.nlri m.attr
def Msg.fsOps (m : Msg) : List Op := RibSpec.mpOps (reachFs m.reach) (unreachFs m.unreach)
def Msg.vpnOps (m : Msg) : List Op := RibSpec.mpOps (reachVpn m.reach) (unreachVpn m.unreach)
def Msg.srOps (m : Msg) : List Op := RibSpec.mpOps (reachSr m.attr m.reach) (unreachSr m.unreach)

theorem inIpv4_updateRibInIpv4 (s : State) (m : Msg) :
    inIpv4 (updateRibInIpv4 s m) = (inIpv4 s).step (.ops m.ipv4Ops) := by
  have h := sideOf_ipv4Loops m.attr m.withdraw m.nlri (s.ribIn, s.recvVer.ipv4)
  rw [← ribInLoops_fst] at h
  exact h

theorem outIpv4_updateRibOutIpv4 (s : State) (m : Msg) :
    outIpv4 (updateRibOutIpv4 s m) = (outIpv4 s).step (.ops m.ipv4Ops) :=
  sideOf_ipv4Loops m.attr m.withdraw m.nlri (s.ribOut, s.sendVer.ipv4)

theorem updateRibInIpv4_nil (s : State) (m : Msg) (hn : m.nlri = []) (hw : m.withdraw = []) :
    updateRibInIpv4 s m = s := by
  unfold updateRibInIpv4 ribInLoops
  rw [hn, hw]; rfl

/-! ### update_receive_verion / update_send_version

Each is one record update: the flowspec and VPNv4 (and, on the sent side, sr-policy) pairs run through
`mpLoops` with the rules of their family, every other field is the old one.  Whatever the functions leave
alone is therefore left alone by `rfl` once they are written this way. -/

def onRecv (f g : Table × Nat → Table × Nat) (s : State) : State :=
  let fs := f (s.fsRecv, s.recvVer.flowspec)
  let vpn := g (s.vpnRecv, s.recvVer.mplsVpn)
  { s with fsRecv := fs.1, vpnRecv := vpn.1, recvVer := { s.recvVer with flowspec := fs.2, mplsVpn := vpn.2 } }

def onSend (f g h : Table × Nat → Table × Nat) (s : State) : State :=
  let fs := f (s.fsSend, s.sendVer.flowspec)
  let sr := g (s.srSend, s.sendVer.srPolicy)
  let vpn := h (s.vpnSend, s.sendVer.mplsVpn)
  { s with fsSend := fs.1, srSend := sr.1, vpnSend := vpn.1,
           sendVer := { s.sendVer with flowspec := fs.2, srPolicy := sr.2, mplsVpn := vpn.2 } }

theorem recvReach_eq (s : State) (r : Option Reach) :
    optApply recvReach s r = onRecv ((reachFs r).foldl annStepMp) ((reachVpn r).foldl annStepMp) s := by
  rcases r with _ | _ | _ | _ | _ <;> rfl

theorem recvUnreach_eq (s : State) (u : Option Unreach) :
    optApply recvUnreach s u = onRecv ((unreachFs u).foldl wdStep) ((unreachVpn u).foldl wdStep) s := by
  rcases u with _ | _ | _ | _ | _ <;> rfl

theorem updateReceiveVersion_eq (s : State) (m : Msg) :
    updateReceiveVersion s m =
      onRecv (mpLoops (reachFs m.reach) (unreachFs m.unreach)) (mpLoops (reachVpn m.reach) (unreachVpn m.unreach)) s := by
  unfold updateReceiveVersion
  rw [recvUnreach_eq, recvReach_eq]; rfl

theorem sendReach_eq (a : Nat) (s : State) (r : Option Reach) :
    optApply (sendReach a) s r =
      onSend ((reachFs r).foldl annStepMp) ((reachSr a r).foldl annStepMp) ((reachVpn r).foldl annStepMp) s := by
  rcases r with _ | _ | _ | _ | _ <;> rfl

theorem sendUnreach_eq (s : State) (u : Option Unreach) :
    optApply sendUnreach s u =
      onSend ((unreachFs u).foldl wdStep) ((unreachSr u).foldl wdStep) ((unreachVpn u).foldl wdStep) s := by
  rcases u with _ | _ | _ | _ | _ <;> rfl

theorem updateSendVersion_eq (s : State) (m : Msg) :
    updateSendVersion s m =
      onSend (mpLoops (reachFs m.reach) (unreachFs m.unreach)) (mpLoops (reachSr m.attr m.reach) (unreachSr m.unreach))
        (mpLoops (reachVpn m.reach) (unreachVpn m.unreach)) s := by
  unfold updateSendVersion
  rw [sendUnreach_eq, sendReach_eq]; rfl

theorem runOps_const (g : Nat → Op) (c : Option Nat)
    (hg : ∀ k t, (g k).run t = fun p => if p = k then c else t p) (ks : List Nat) (t : RibSpec.Table) :
    runOps (ks.map g) t = fun p => if p ∈ ks then c else t p := by
  induction ks generalizing t with
  | nil => funext p; simp [runOps]
  | cons k ks ih =>
    funext p
    simp only [List.map_cons, runOps, ih, hg, List.mem_cons]
    by_cases h1 : p ∈ ks <;> by_cases h2 : p = k <;> simp [h1, h2]

theorem runOps_ipv4Ops (wd nl : List Nat) (a : Nat) (t : RibSpec.Table) :
    runOps (RibSpec.ipv4Ops wd nl a) t = RibSpec.apply t wd nl a := by
  unfold RibSpec.ipv4Ops RibSpec.apply
  rw [runOps_append, runOps_const Op.withdraw none fun _ _ => rfl,
    runOps_const (fun p => Op.announce p a) (some a) fun _ _ => rfl]

def opKey : Op → Nat
  | .announce k _ => k
  | .withdraw k => k

/-- no route is both announced and withdrawn, or announced with two different attribute sets, by the
    same UPDATE (RFC 4271 section 4.3: "An UPDATE message SHOULD NOT include the same address prefix in
    the WITHDRAWN ROUTES and Network Layer Reachability Information fields") -/
def Coherent (ops : List Op) : Prop := ∀ o1 ∈ ops, ∀ o2 ∈ ops, opKey o1 = opKey o2 → o1 = o2

theorem run_other (op : Op) (t : RibSpec.Table) (p : Nat) (h : p ≠ opKey op) : op.run t p = t p := by
  cases op <;> simp_all [Op.run, opKey]

theorem run_key_const (op : Op) (t t' : RibSpec.Table) : op.run t (opKey op) = op.run t' (opKey op) := by
  cases op <;> simp [Op.run, opKey]

theorem delta_zero_run (op : Op) (t : RibSpec.Table) (h : op.delta t = 0) : op.run t = t := by
  cases op with
  | announce k v =>
    by_cases hk : t k = some v
    · exact run_announce_same t k v hk
    · simp [Op.delta, hk] at h
  | withdraw k =>
    cases hk : t k with
    | none => exact run_withdraw_absent t k hk
    | some v => simp [Op.delta, hk] at h

theorem delta_one_run (op : Op) (t : RibSpec.Table) (h : op.delta t ≠ 0) :
    op.run t (opKey op) ≠ t (opKey op) := by
  cases op with
  | announce k v =>
    by_cases hk : t k = some v
    · simp [Op.delta, hk] at h
    · simpa [Op.run, opKey] using fun h' => hk h'.symm
  | withdraw k =>
    cases hk : t k with
    | none => simp [Op.delta, hk] at h
    | some v => simp [Op.run, opKey, hk]

theorem changes_zero_runOps (ops : List Op) (t : RibSpec.Table) (h : changes ops t = 0) :
    runOps ops t = t := by
  induction ops generalizing t with
  | nil => rfl
  | cons op ops ih =>
    simp only [changes, Nat.add_eq_zero_iff] at h
    have := delta_zero_run op t h.1
    simp only [runOps, this] at *
    exact ih t h.2

theorem runOps_inv {P : RibSpec.Table → Prop} :
    ∀ (ops : List Op) (t : RibSpec.Table), (∀ o ∈ ops, ∀ t, P t → P (o.run t)) → P t → P (runOps ops t)
  | [], _, _, ht => ht
  | o :: ops, t, h, ht =>
    runOps_inv ops _ (fun o' ho' => h o' (List.mem_cons_of_mem _ ho')) (h o List.mem_cons_self t ht)

/-- later operations that touch `op`'s route only repeat `op`: its effect on that route stays -/
theorem runOps_keeps (op : Op) (ops : List Op) (t : RibSpec.Table)
    (h : ∀ o ∈ ops, opKey o = opKey op → o = op) :
    runOps ops (op.run t) (opKey op) = op.run t (opKey op) := by
  refine runOps_inv (P := fun t' => t' (opKey op) = op.run t (opKey op)) ops _ (fun o ho t' ht' => ?_) rfl
  by_cases hk : opKey o = opKey op
  · rw [h o ho hk]; exact run_key_const op t' t
  · rw [run_other o t' _ fun e => hk e.symm]; exact ht'

theorem Coherent.tail {op : Op} {ops : List Op} (h : Coherent (op :: ops)) : Coherent ops :=
  fun o1 h1 o2 h2 => h o1 (List.mem_cons_of_mem _ h1) o2 (List.mem_cons_of_mem _ h2)

theorem changes_zero_iff (ops : List Op) (t : RibSpec.Table) (hc : Coherent ops) :
    changes ops t = 0 ↔ runOps ops t = t := by
  constructor
  · exact changes_zero_runOps ops t
  · induction ops generalizing t with
    | nil => intro _; rfl
    | cons op ops ih =>
      intro h
      simp only [runOps] at h
      by_cases hd : op.delta t = 0
      · have e := delta_zero_run op t hd
        rw [e] at h
        simp [changes, hd, e, ih t hc.tail h]
      · exfalso
        have hne := delta_one_run op t hd
        have hkeep := runOps_keeps op ops t
          fun o ho hk => hc o (List.mem_cons_of_mem _ ho) op List.mem_cons_self hk
        rw [h] at hkeep
        exact hne hkeep.symm

theorem coherent_ipv4Ops (wd nl : List Nat) (a : Nat) (hd : ∀ p ∈ wd, p ∉ nl) :
    Coherent (RibSpec.ipv4Ops wd nl a) := by
  intro o1 h1 o2 h2 hk
  simp only [RibSpec.ipv4Ops, List.mem_append, List.mem_map] at h1 h2
  rcases h1 with ⟨k1, hk1, rfl⟩ | ⟨k1, hk1, rfl⟩ <;> rcases h2 with ⟨k2, hk2, rfl⟩ | ⟨k2, hk2, rfl⟩ <;>
    simp only [opKey] at hk <;> subst hk
  · rfl
  · exact absurd hk2 (hd _ hk1)
  · exact absurd hk1 (hd _ hk2)
  · rfl

/-! ### every stored route has a node in the radix tree -/

def TreeCovers (t : Table) (tr : List Nat) : Prop := ∀ k, t.has k = true → k ∈ tr

theorem foldl_inv {α β : Type} {P : α → Prop} {f : α → β → α} (h : ∀ x b, P x → P (f x b)) :
    ∀ (l : List β) (x : α), P x → P (l.foldl f x)
  | [], _, hx => hx
  | b :: l, x, hx => foldl_inv h l _ (h x b hx)

theorem treeCovers_nil (tr : List Nat) : TreeCovers [] tr := fun _ hk => absurd hk Bool.false_ne_true

theorem mem_treeDelete {tr : List Nat} {k p : Nat} (h : k ∈ tr) (hkp : k ≠ p) : k ∈ treeDelete tr p := by
  unfold treeDelete
  split
  · exact List.mem_filter.mpr ⟨h, by simpa using hkp⟩
  · exact h

theorem mem_treeAdd {tr : List Nat} {k p : Nat} (h : k ∈ tr ∨ k = p) : k ∈ treeAdd tr p := by
  unfold treeAdd
  split
  · next hc => rcases h with h | rfl
               · exact h
               · simpa using hc
  · simpa using h

theorem treeCovers_wdStep (x : (Table × Nat) × List Nat) (p : Nat) (h : TreeCovers x.1.1 x.2) :
    TreeCovers (ribInWdStep x p).1.1 (ribInWdStep x p).2 := by
  unfold ribInWdStep
  split
  · intro k hk
    obtain ⟨hkp, hk⟩ := (Table.has_pop _ _ _).mp hk
    exact mem_treeDelete (h k hk) hkp
  · exact h

theorem treeCovers_annStep (a : Nat) (x : (Table × Nat) × List Nat) (p : Nat) (h : TreeCovers x.1.1 x.2) :
    TreeCovers (ribInAnnStep a x p).1.1 (ribInAnnStep a x p).2 := by
  intro k hk
  rw [show (ribInAnnStep a x p).1.1 = x.1.1.set p a from congrArg Prod.fst (annStepIpv4_eq a x.1 p)] at hk
  exact mem_treeAdd (((Table.has_set _ _ _ _).mp hk).symm.imp_left (h k))

theorem treeCovers_ribInLoops (s : State) (m : Msg) (h : TreeCovers s.ribIn s.tree) :
    TreeCovers (ribInLoops s m).1.1 (ribInLoops s m).2 :=
  foldl_inv (treeCovers_annStep m.attr) _ _ (foldl_inv treeCovers_wdStep _ _ h)

end Yabgp.Rib
