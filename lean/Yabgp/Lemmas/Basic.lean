/-
  First lemmas about the definitions of Model/Attr.lean and Model/Update.lean.
-/
import Yabgp.Base.Bytes
import Yabgp.Model.Update

namespace Yabgp

theorem words32_be32_append {a : Nat} (h : a < 4294967296) (t : Bytes) :
    words32 (be32 a ++ t) = a :: words32 t := by
  simp only [be32, List.cons_append, List.nil_append, words32, be32_val h]

theorem words32_flatMap_be32 (xs : List Nat) (h : ∀ x ∈ xs, x < 4294967296) :
    words32 (xs.flatMap be32) = xs := by
  induction xs with
  | nil => rfl
  | cons x r ih =>
    rw [List.flatMap_cons, words32_be32_append (h x (by simp)), ih fun y hy => h y (by simp [hy])]

theorem flatMap_be32_length (xs : List Nat) : (xs.flatMap be32).length = 4 * xs.length :=
  length_flatMap_const 4 be32_length xs

theorem encAsns_length (asn4 : Bool) (xs : List Nat) :
    (encAsns asn4 xs).length = xs.length * asWidth asn4 := by
  rw [Nat.mul_comm]
  exact length_flatMap_const _ (fun x => by cases asn4 <;> rfl) xs

theorem constructHeader_some {ty : Nat} {body w : Bytes} :
    constructHeader ty body = some w ↔
      body.length + 19 < 65536 ∧ w = marker ++ be16 (body.length + 19) ++ be8 ty ++ body := by
  rw [constructHeader, Option.ite_none_right_eq_some, Option.some.injEq, eq_comm]

/-- the octets of an IPv4 prefix, as `construct_prefix_v4` counts them -/
theorem prefixOctets_eq {len : Nat} (h : len ≤ 32) : prefixOctets len = (len + 7) / 8 := by
  simp only [prefixOctets, ite_eq_iff_imp]; omega

theorem decAsns_enc (asn4 : Bool) (xs : List Nat) (r : Bytes)
    (h : ∀ x ∈ xs, asnOk asn4 x = true) :
    decAsns asn4 xs.length (encAsns asn4 xs ++ r) = xs := by
  induction xs with
  | nil => simp [decAsns]
  | cons x t ih =>
    have hx := h x (by simp)
    have ht := ih (fun y hy => h y (by simp [hy]))
    unfold encAsns at ht ⊢
    simp only [List.flatMap_cons, List.length_cons, decAsns, List.append_assoc]
    cases asn4
    · simp only [asnOk, Bool.false_eq_true, ↓reduceIte, decide_eq_true_eq] at hx
      simp only [Bool.false_eq_true, ↓reduceIte, rd16_be16 hx]
      simp only [Bool.false_eq_true, ↓reduceIte] at ht
      rw [ht]
    · simp only [asnOk, ↓reduceIte, decide_eq_true_eq] at hx
      simp only [↓reduceIte, rd32_be32 hx]
      simp only [↓reduceIte] at ht
      rw [ht]

end Yabgp
