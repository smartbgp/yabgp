/-
  The "at most one connection or attempt" invariant of C12, on the control skeleton: the peering
  keeps the connector of the attempt in flight (`pending`, BGPPeering.connector) and gives it up before it starts
  another one and at manual stop.
-/
import Yabgp.Lemmas.Heal

namespace Yabgp
namespace Core

def Live (c : Core) (j : Nat) : Prop := (c.conn j).1 = .connecting ∨ (c.conn j).1 = .connected

structure One (c : Core) : Prop where
  one : ∀ i j, i < c.conns.length → j < c.conns.length → Live c i → Live c j → i = j
  tracked : ∀ j, j < c.conns.length → (c.conn j).1 = .connected → c.proto = some j ∧ c.estab = some j ∧ c.st ≠ .idle

def NoConnected (c : Core) : Prop := ∀ j, j < c.conns.length → (c.conn j).1 ≠ .connected
def NoLive (c : Core) : Prop := ∀ j, j < c.conns.length → ¬ Live c j

def Pend (c : Core) : Prop := ∀ j, j < c.conns.length → (c.conn j).1 = .connecting → c.pending = some j

def NoConnecting (c : Core) : Prop := ∀ j, j < c.conns.length → (c.conn j).1 ≠ .connecting

theorem Shrunk.live {c c' : Core} (hs : Shrunk c c') {j : Nat} (hl : Live c' j) : Live c j := by
  have e := hs.of_live hl
  unfold Live at hl ⊢
  rwa [e] at hl

/-- after the abort no attempt is in flight: one that was would be the remembered one, which the abort closes -/
theorem noConnecting_abortPending {c : Core} (h : Pend c) : NoConnecting c.abortPending := by
  intro j hj hc
  rw [len_abortPending] at hj
  rw [conn_abortPending] at hc
  split at hc
  · cases hc
  · rename_i hne; exact hne ⟨h j hj hc, hj, hc⟩

theorem Pend.of_conns {c c' : Core} (h : Pend c) (hc : c'.conns = c.conns) (hp : c'.pending = c.pending) : Pend c' := by
  intro j hj hcj
  rw [hc] at hj
  have : c'.conn j = c.conn j := by simp only [conn, hc]
  rw [this] at hcj
  exact hp.trans (h j hj hcj)

theorem Pend.of_shrunk {c c' : Core} (h : Pend c) (hs : Shrunk c c') (hp : c'.pending = c.pending) : Pend c' := by
  intro j hj hcj
  rw [hs.1] at hj
  have e := hs.of_live (.inl hcj)
  rw [e] at hcj
  exact hp.trans (h j hj hcj)

theorem pend_closeConn {c : Core} (h : Pend c) : Pend c.closeConn :=
  h.of_shrunk (shrunk_closeConn c) (by unfold closeConn; split <;> simp [closeOn]; split <;> rfl)

theorem pend_of_noConnecting {c : Core} (h : NoConnecting c) : Pend c := fun j hj hc => absurd hc (h j hj)

theorem pend_abortPending {c : Core} (h : Pend c) : Pend c.abortPending := pend_of_noConnecting (noConnecting_abortPending h)

theorem pend_connectTcp {c : Core} (h : Pend c) : Pend c.connectTcp := by
  intro j hj hcj
  rw [conn_connectTcp] at hcj
  -- after the abort nothing is connecting, so `j` is not an old index: it is the new attempt's
  have hl : ¬ j < c.abortPending.conns.length := fun hl => noConnecting_abortPending h j hl hcj
  by_cases he : c.abortPending.st ≠ .established
  · rw [connectTcp, if_pos he] at hj ⊢
    simp only [List.length_append, List.length_cons, List.length_nil] at hj
    exact congrArg some (by omega)
  · rw [connectTcp, if_neg he] at hj
    exact absurd hj hl

theorem one_of_shrunk {c c' : Core} (h : One c) (hs : Shrunk c c') :
    ∀ i j, i < c'.conns.length → j < c'.conns.length → Live c' i → Live c' j → i = j := by
  intro i j hi hj li lj
  rw [hs.1] at hi hj
  exact h.one i j hi hj (hs.live li) (hs.live lj)

theorem One.of_noConnected {c : Core} (h1 : ∀ i j, i < c.conns.length → j < c.conns.length → Live c i → Live c j → i = j)
    (h2 : NoConnected c) : One c := ⟨h1, fun j hj hc => absurd hc (h2 j hj)⟩

/-- after `_close_connection` nothing is connected any more: the only connected connection was the tracked one -/
theorem noConnected_closeConn {c : Core} (h : One c) : NoConnected c.closeConn := by
  intro j hj hc
  rw [len_closeConn] at hj
  have hcj : (c.conn j).1 = .connected := by rw [← (shrunk_closeConn c).of_live (.inr hc)]; exact hc
  obtain ⟨hp, _, _⟩ := h.tracked j hj hcj
  unfold closeConn at hc
  rw [hp] at hc
  simp only at hc
  rw [conn_closeOn, if_pos ⟨rfl, hj, Or.inl hcj⟩] at hc
  cases hc

theorem one_after_close {c c' : Core} (h : One c) (hc : c'.conns = c.closeConn.conns) : One c' := by
  have hs : Shrunk c c' := (shrunk_closeConn c).trans (Shrunk.of_conns hc)
  apply One.of_noConnected (one_of_shrunk h hs)
  intro j hj
  have : c'.conn j = c.closeConn.conn j := by simp only [conn, hc]
  rw [this]
  exact noConnected_closeConn h j (by rw [← hc]; exact hj)

theorem one_errorClose {c : Core} (h : One c) : One c.errorClose := by
  have h' : One (c.withTm false true) := ⟨h.one, h.tracked⟩
  exact one_after_close h' rfl

theorem One.of_same {c c' : Core} (h : One c) (hc : c'.conns = c.conns) (hp : c'.proto = c.proto) (he : c'.estab = c.estab)
    (hst : c'.st = .idle → c.st = .idle) : One c' := by
  have hconn : ∀ j, c'.conn j = c.conn j := fun j => by simp only [conn, hc]
  refine ⟨?_, ?_⟩
  · intro i j hi hj li lj
    rw [hc] at hi hj
    unfold Live at li lj; rw [hconn] at li lj
    exact h.one i j hi hj li lj
  · intro j hj hcj
    rw [hc] at hj; rw [hconn] at hcj
    obtain ⟨h1, h2, h3⟩ := h.tracked j hj hcj
    exact ⟨hp.trans h1, he.trans h2, fun e => h3 (hst e)⟩

theorem one_connectTcp {c : Core} (hn : NoLive c.abortPending) : One c.connectTcp := by
  have key : ∀ k, k < c.connectTcp.conns.length → Live c.connectTcp k → k = c.conns.length := by
    intro k hk lk
    unfold Live at lk
    rw [conn_connectTcp] at lk
    have hl : ¬ k < c.abortPending.conns.length := fun hl => hn k hl lk
    have := len_connectTcp_le c
    rw [len_abortPending] at hl
    omega
  refine ⟨fun i j hi hj li lj => (key i hi li).trans (key j hj lj).symm, fun j hj hcj => ?_⟩
  have hd : c.abortPending.conn c.conns.length = (.connecting, false) := by
    simp [conn, List.getD_eq_getElem?_getD]
  have hk := key j hj (.inr hcj)
  rw [conn_connectTcp, hk, hd] at hcj
  cases hcj

theorem noLive_abort {c : Core} (hp : Pend c) (hnc : NoConnected c) : NoLive c.abortPending := by
  intro j hj hl
  rcases hl with hl | hl
  · exact noConnecting_abortPending hp j hj hl
  · rw [len_abortPending] at hj
    exact hnc j hj (by rw [← (shrunk_abortPending c).of_live (.inr hl)]; exact hl)

theorem one_pend_connectTcp {c : Core} (hp : Pend c) (hnc : NoConnected c) : One c.connectTcp ∧ Pend c.connectTcp :=
  ⟨one_connectTcp (noLive_abort hp hnc), pend_connectTcp hp⟩

theorem NoLive.of_conns {c c' : Core} (h : NoLive c) (hc : c'.conns = c.conns) : NoLive c' := by
  intro j hj; unfold Live; simp only [conn, hc]; rw [hc] at hj; exact h j hj

theorem noConnected_of_idle {c : Core} (h : One c) (hs : c.st = .idle) : NoConnected c :=
  fun j hj hl => (h.tracked j hj hl).2.2 hs

theorem one_pend_autoStart {c : Core} (h : One c) (hp : Pend c) (b : Bool) : One (c.autoStart b) ∧ Pend (c.autoStart b) := by
  unfold autoStart
  split
  · rename_i hs
    split
    · exact ⟨h.of_same rfl rfl rfl (fun _ => hs), hp.of_conns rfl rfl⟩
    · split
      · exact one_pend_connectTcp (c := (c.setRetry true).withSt .connect) (hp.of_conns rfl rfl)
          (noConnected_of_idle (c := c) h hs)
      · exact ⟨h, hp⟩
  · exact ⟨h, hp⟩

theorem one_frameOutcome {c : Core} (h : One c) : ∀ o ∈ c.frameOutcomes, One o := by
  intro o ho
  rcases frameOutcome_cases ho with rfl | rfl | ⟨_, rfl⟩ | ⟨_, rfl⟩ | ⟨_, rfl⟩
  · exact h
  · exact one_errorClose h
  · exact h.of_same rfl rfl rfl (fun e => St.noConfusion e)
  · exact h.of_same rfl rfl rfl (fun e => St.noConfusion e)
  · exact one_after_close (c := c.setRetry false) ⟨h.one, h.tracked⟩ rfl

theorem pend_errorClose {c : Core} (hp : Pend c) : Pend c.errorClose :=
  (pend_closeConn (c := c.withTm false true) (hp.of_conns rfl rfl)).of_conns rfl rfl

theorem pend_frameOutcome {c : Core} (hp : Pend c) : ∀ o ∈ c.frameOutcomes, Pend o := by
  intro o ho
  rcases frameOutcome_cases ho with rfl | rfl | ⟨_, rfl⟩ | ⟨_, rfl⟩ | ⟨_, rfl⟩
  · exact hp
  · exact pend_errorClose hp
  · exact hp.of_conns rfl rfl
  · exact hp.of_conns rfl rfl
  · exact (pend_closeConn (c := c.setRetry false) (hp.of_conns rfl rfl)).of_conns rfl rfl

/-- BGPPeering.connection_closed on a state where nothing connected would be orphaned by going Idle -/
theorem one_pend_connectionClosed {c : Core} (h : One c) (hpd : Pend c) (p : Option Nat)
    (hp : ∀ q, p = some q → c.estab = some q → NoConnected c) : One (c.connectionClosed p) ∧ Pend (c.connectionClosed p) := by
  have hd : One (c.dropEstab p) ∧ Pend (c.dropEstab p) := by
    unfold dropEstab
    cases p with
    | none => exact ⟨h, hpd⟩
    | some q =>
      simp only
      split
      · rename_i he
        exact ⟨One.of_noConnected h.one (hp q rfl he), hpd.of_conns rfl rfl⟩
      · exact ⟨h, hpd⟩
  unfold connectionClosed
  split
  · exact one_pend_autoStart hd.1 hd.2 true
  · exact hd

theorem one_pend_connectionFailed {c : Core} (h : One c) (hpd : Pend c) (hna : c.st ≠ .active) :
    One c.connectionFailed ∧ Pend c.connectionFailed := by
  unfold connectionFailed
  cases hs : c.st <;> simp only
  · exact ⟨h, hpd⟩
  · -- Connect: `_close_connection` first, so nothing is connected when connection_closed runs
    exact one_pend_connectionClosed (c := ((c.setRetry false).closeConn).withSt .idle)
      (one_after_close (c := c.setRetry false) ⟨h.one, h.tracked⟩ rfl)
      ((pend_closeConn (c := c.setRetry false) (hpd.of_conns rfl rfl)).of_conns rfl rfl) _
      fun _ _ _ => noConnected_closeConn (c := c.setRetry false) ⟨h.one, h.tracked⟩
  · exact absurd hs hna
  · -- OpenSent: the same
    exact one_pend_connectionClosed (c := ((c.closeConn).setRetry true).withSt .active) (one_after_close (c := c) h rfl)
      ((pend_closeConn hpd).of_conns rfl rfl) _
      fun _ _ _ => noConnected_closeConn h
  · exact ⟨one_errorClose h, pend_errorClose hpd⟩
  · exact ⟨one_errorClose h, pend_errorClose hpd⟩

theorem one_setPhase_closed {c : Core} (h : One c) (i : Nat) : One (c.setPhase i .closed) := by
  refine ⟨one_of_shrunk h (shrunk_setPhase_closed c i), ?_⟩
  intro j hj hcj
  rw [len_setPhase] at hj
  exact h.tracked j hj (by rw [← (shrunk_setPhase_closed c i).of_live (.inr hcj)]; exact hcj)

theorem pend_setPhase_closed {c : Core} (h : Pend c) (i : Nat) : Pend (c.setPhase i .closed) :=
  h.of_shrunk (shrunk_setPhase_closed c i) rfl

theorem noLive_manualStop {c : Core} (h : One c) (hp : Pend c) : NoLive c.manualStop :=
  noLive_abort (c := (((c.withTm false false).closeConn).withAllow false).withSt .idle)
    ((pend_closeConn (c := c.withTm false false) (hp.of_conns rfl rfl)).of_conns rfl rfl)
    (noConnected_closeConn (c := c.withTm false false) ⟨h.one, h.tracked⟩)

/-- **every event keeps: at most one live connection, every open connection tracked, every attempt remembered** -/
theorem one_stepOutcome {c : Core} (h : One c) (hpd : Pend c) (hh : Heal c) (e : Ev) (hen : enabledC c e) :
    ∀ o ∈ c.stepOutcome e, One o ∧ Pend o := by
  refine stepOutcome_cases (P := fun o => One o ∧ Pend o)
    (fun o ho => ⟨one_frameOutcome h o ho, pend_frameOutcome hpd o ho⟩)
    (one_pend_autoStart h hpd false) ?start ?stop ?ok ?fail ?lost ?retry ?idleHold e hen
  case start =>
    unfold manualStart
    cases hs : c.st <;> simp only
    · exact one_pend_connectTcp (c := ((c.withAllow true).setRetry true).withSt .connect) (hpd.of_conns rfl rfl)
        (noConnected_of_idle (c := c) h hs)
    all_goals exact ⟨h, hpd⟩
  case stop =>
    have hn := noLive_manualStop h hpd
    exact ⟨One.of_noConnected (fun i _ hi _ li _ => absurd li (hn i hi)) (fun j hj hc => hn j hj (Or.inr hc)),
      pend_of_noConnecting (fun j hj hc => hn j hj (Or.inl hc))⟩
  case ok =>
    intro i b hl hph
    -- `i` was an attempt in flight, hence the only live connection; it still is, and it is tracked now
    have key : ∀ k, k < c.conns.length → Live (c.setPhase i .connected) k → k = i := by
      intro k hk lk
      unfold Live at lk
      rw [conn_setPhase] at lk
      by_cases hik : i = k
      · exact hik.symm
      · rw [if_neg (fun hh => hik hh.1)] at lk
        exact (h.one i k hl hk (Or.inl hph) lk).symm
    have h1 : One ((((c.setPhase i .connected).withProto (some i)).withEstab (some i)).withSt .connect) :=
      ⟨fun a b ha hb la lb => (key a (len_setPhase c i _ ▸ ha) la).trans (key b (len_setPhase c i _ ▸ hb) lb).symm,
        fun j hj hcj => by cases key j (len_setPhase c i _ ▸ hj) (.inr hcj); exact ⟨rfl, rfl, nofun⟩⟩
    have p1 : Pend (c.setPhase i .connected) := by
      intro j hj hcj
      rw [len_setPhase] at hj
      rw [conn_setPhase] at hcj
      split at hcj
      · cases hcj
      · exact hpd j hj hcj
    cases b
    · exact ⟨h1.of_same rfl rfl rfl nofun, p1.of_conns rfl rfl⟩
    · exact ⟨h1.of_same rfl rfl rfl nofun, p1.of_conns rfl rfl⟩
  case fail =>
    intro i _ _
    unfold connFail
    split
    · have h1 : One ((c.withPending none).setPhase i .closed) := one_setPhase_closed (c := c.withPending none) ⟨h.one, h.tracked⟩ i
      have p1 : Pend ((c.withPending none).setPhase i .closed) := by
        -- the failed attempt was the remembered one, so no attempt is left
        rename_i hpi
        apply pend_of_noConnecting
        intro j hj hcj
        rw [len_setPhase] at hj
        rw [conn_setPhase] at hcj
        split at hcj
        · cases hcj
        · rename_i hne
          cases (hpd j hj hcj).symm.trans hpi
          exact hne ⟨rfl, hj⟩
      exact one_pend_connectionFailed h1 p1 hh.noActive
    · exact ⟨one_setPhase_closed h i, pend_setPhase_closed hpd i⟩
  case lost =>
    intro i
    unfold connLost
    split
    · rename_i hd
      apply one_pend_connectionClosed (one_setPhase_closed h i) (pend_setPhase_closed hpd i)
      -- a connected connection would be the established one, which is the one just lost
      intro q hq he j hj hcj
      cases hq
      rw [len_setPhase] at hj
      rw [conn_setPhase] at hcj
      split at hcj
      · cases hcj
      · rename_i hne
        cases (h.tracked j hj hcj).2.1.symm.trans he
        exact hne ⟨rfl, hj⟩
    · exact one_pend_connectionFailed (one_setPhase_closed h i) (pend_setPhase_closed hpd i) hh.noActive
  case retry =>
    unfold fireRetry
    have p1 : Pend (((c.setRetry false).closeConn).setRetry true) :=
      (pend_closeConn (c := c.setRetry false) (hpd.of_conns rfl rfl)).of_conns rfl rfl
    have hop := one_pend_connectTcp p1 (noConnected_closeConn (c := c.setRetry false) ⟨h.one, h.tracked⟩)
    cases hs : c.st <;> simp only
    · exact ⟨h.of_same rfl rfl rfl (fun _ => hs), hpd.of_conns rfl rfl⟩
    · exact hop
    · exact hop
    all_goals exact ⟨one_errorClose (c := c.setRetry false) ⟨h.one, h.tracked⟩, pend_errorClose (c := c.setRetry false) (hpd.of_conns rfl rfl)⟩
  case idleHold =>
    unfold fireIdleHold
    split
    · exact one_pend_autoStart (c := c.setIdleHold false) ⟨h.one, h.tracked⟩ (hpd.of_conns rfl rfl) false
    · rename_i hs
      exact ⟨h.of_same rfl rfl rfl (fun e => absurd e hs), hpd.of_conns rfl rfl⟩

end Core
end Yabgp
