/-
  An invariant of the session model that C16 needs: whenever the state machine is in OpenSent, OpenConfirm or
  Established, the connection it tracks (`FSM.protocol`) exists, is connected and has not been closed by us; and a
  connection we closed is never reported as connected again.  It speaks of the control skeleton only
  (Lemmas/Core.lean), where it is shown to be kept by everything a received frame and an event can do; a REST request
  acts on the skeleton as nothing, or as the operator's start or stop (`core_handle`).
-/
import Yabgp.Lemmas.RestLemmas
import Yabgp.Lemmas.Heal

namespace Yabgp.RestInv
open Yabgp.Sess

def inSession (st : St) : Prop := st = .openSent ∨ st = .openConfirm ∨ st = .established

def DiscClosed (s : Sess) : Prop :=
  ∀ j, (s.conn j).disconnected = true → (s.conn j).phase = .closing ∨ (s.conn j).phase = .closed

structure SessInv (s : Sess) : Prop where
  tracked : inSession s.st → ∃ i, s.proto = some i ∧ i < s.conns.length ∧ (s.conn i).phase = .connected
  disc : DiscClosed s

theorem SessInv.norm {s : Sess} (h : SessInv s) (hs : inSession s.st) : ∃ i, Norm s i := by
  obtain ⟨i, hp, hl, hu⟩ := h.tracked hs
  refine ⟨i, hp, hl, hu, ?_⟩
  cases hd : (s.conn i).disconnected with
  | false => rfl
  | true => rcases h.disc i hd with h1 | h1 <;> rw [hu] at h1 <;> cases h1

theorem inSession_established : inSession .established := Or.inr (Or.inr rfl)

theorem not_inSession {st : St} (h : st = .idle ∨ st = .connect ∨ st = .active) : ¬ inSession st := by
  rintro (e | e | e) <;> rcases h with h | h | h <;> rw [h] at e <;> cases e

def Disc (l : List (Phase × Bool)) : Prop := ∀ x ∈ l, x.2 = true → x.1 = .closing ∨ x.1 = .closed

/-- `Core.Heal.sess` gives `tracked` in the states reachable after the first start; this invariant holds already at
    `bootWorld` (`coreInv_boot`), where `Heal` fails, and `C16.Reach` lets any event or request come first. -/
structure CoreInv (c : Core) : Prop where
  tracked : inSession c.st → ∃ i, c.proto = some i ∧ i < c.conns.length ∧ (c.conn i).1 = .connected
  disc : Disc c.conns

theorem Disc.set {l : List (Phase × Bool)} (h : Disc l) (i : Nat) {y : Phase × Bool}
    (hy : y.2 = true → y.1 = .closing ∨ y.1 = .closed) : Disc (l.set i y) :=
  fun x hx => (List.mem_or_eq_of_mem_set hx).elim (h x) fun e => e ▸ hy

theorem Disc.conn {c : Core} (h : Disc c.conns) (j : Nat) (hd : (c.conn j).2 = true) :
    (c.conn j).1 = .closing ∨ (c.conn j).1 = .closed := by
  unfold Core.conn at hd ⊢
  rw [List.getD_eq_getElem?_getD] at hd ⊢
  cases hx : c.conns[j]? with
  | none => rw [hx] at hd; cases hd
  | some x => rw [hx] at hd; exact h x (List.mem_of_getElem? hx) hd

theorem SessInv.of_core {s : Sess} (h : CoreInv (core s)) : SessInv s := by
  refine ⟨fun hs => ?_, fun j hd => ?_⟩
  · obtain ⟨i, hp, hl, hu⟩ := h.tracked hs
    rw [core_conn] at hu
    exact ⟨i, hp, by simpa only [core, List.length_map] using hl, hu⟩
  · have := h.disc.conn j
    rw [core_conn] at this
    exact this hd

theorem disc_closeConn {c : Core} (h : Disc c.conns) : Disc c.closeConn.conns := by
  unfold Core.closeConn Core.closeOn
  split
  · exact h
  · split
    · exact h.set _ fun _ => .inl rfl
    · exact h

theorem disc_abortPending {c : Core} (h : Disc c.conns) : Disc c.abortPending.conns := by
  unfold Core.abortPending
  split
  · exact h
  · split
    · exact h.set _ fun _ => .inr rfl
    · exact h

theorem disc_connectTcp {c : Core} (h : Disc c.conns) : Disc c.connectTcp.conns := by
  unfold Core.connectTcp
  split
  · intro x hx
    rcases List.mem_append.1 hx with hx | hx
    · exact disc_abortPending h x hx
    · cases List.mem_singleton.1 hx
      exact fun e => nomatch e
  · exact disc_abortPending h

theorem CoreInv.of_disc {c : Core} (hs : ¬ inSession c.st) (hd : Disc c.conns) : CoreInv c := ⟨fun h => absurd h hs, hd⟩

theorem CoreInv.of_eq {c c' : Core} (h : CoreInv c) (hp : c'.proto = c.proto) (hc : c'.conns = c.conns)
    (hs : inSession c'.st → inSession c.st) : CoreInv c' := by
  refine ⟨fun h' => ?_, by rw [hc]; exact h.disc⟩
  unfold Core.conn
  rw [hp, hc]
  exact h.tracked (hs h')

theorem CoreInv.close {c : Core} (h : CoreInv c) (j : Nat) (hj : (c.conn j).1 ≠ .connected) :
    CoreInv (c.setPhase j .closed) := by
  refine ⟨fun hs => ?_, h.disc.set j fun _ => .inr rfl⟩
  obtain ⟨i, hp, hl, hu⟩ := h.tracked hs
  refine ⟨i, hp, by rw [Core.len_setPhase]; exact hl, ?_⟩
  have hne : ¬ (j = i ∧ j < c.conns.length) := fun e => hj (e.1 ▸ hu)
  rw [Core.conn_setPhase, if_neg hne]
  exact hu

theorem coreInv_errorClose {c : Core} (h : Disc c.conns) : CoreInv c.errorClose :=
  .of_disc (not_inSession (.inl rfl)) (disc_closeConn (c := c.withTm false true) h)

theorem coreInv_autoStart {c : Core} (h : CoreInv c) (b : Bool) : CoreInv (c.autoStart b) := by
  unfold Core.autoStart
  split
  · split
    · exact h.of_eq rfl rfl id
    · split
      · exact .of_disc (by rw [Core.connectTcp_st]; exact not_inSession (.inr (.inl rfl))) (disc_connectTcp h.disc)
      · exact h
  · exact h

theorem coreInv_connectionClosed {c : Core} (h : CoreInv c) (p : Option Nat) : CoreInv (c.connectionClosed p) := by
  have hd : CoreInv (c.dropEstab p) := by
    unfold Core.dropEstab
    split
    · split
      · exact .of_disc (not_inSession (.inl rfl)) h.disc
      · exact h
    · exact h
  unfold Core.connectionClosed
  split
  · exact coreInv_autoStart hd true
  · exact hd

/-- FSM.connection_failed never ends in a session state -/
theorem coreInv_connectionFailed {c : Core} (h : Disc c.conns) : CoreInv c.connectionFailed := by
  unfold Core.connectionFailed
  cases hs : c.st <;> simp only
  · exact .of_disc (hs ▸ not_inSession (.inl rfl)) h
  · apply coreInv_connectionClosed
    exact .of_disc (not_inSession (.inl rfl)) (disc_closeConn (c := c.setRetry false) h)
  · exact .of_disc (not_inSession (.inl rfl)) h
  · apply coreInv_connectionClosed
    exact .of_disc (not_inSession (.inr (.inr rfl))) (disc_closeConn h)
  · exact coreInv_errorClose h
  · exact coreInv_errorClose h

theorem coreInv_frameOutcome {c : Core} (h : CoreInv c) : ∀ o ∈ c.frameOutcomes, CoreInv o := by
  intro o ho
  rcases Core.frameOutcome_cases ho with rfl | rfl | ⟨hs, rfl⟩ | ⟨hs, rfl⟩ | ⟨_, rfl⟩
  · exact h
  · exact coreInv_errorClose h.disc
  · exact h.of_eq rfl rfl fun _ => .inl hs
  · exact h.of_eq rfl rfl fun _ => .inr (.inl hs)
  · exact .of_disc (not_inSession (.inl rfl)) (disc_closeConn (c := c.setRetry false) h.disc)

theorem coreInv_stepOutcome {c : Core} (h : CoreInv c) (e : Ev) (hen : c.enabledC e) : ∀ o ∈ c.stepOutcome e, CoreInv o := by
  refine Core.stepOutcome_cases (coreInv_frameOutcome h) (coreInv_autoStart h false) ?start ?stop ?ok ?fail ?lost ?retry ?idleHold e hen
  case start =>
    unfold Core.manualStart
    cases c.st <;> simp only
    · exact .of_disc (by rw [Core.connectTcp_st]; exact not_inSession (.inr (.inl rfl))) (disc_connectTcp h.disc)
    all_goals exact h
  case stop =>
    exact .of_disc (by rw [Core.manualStop, Core.abortPending_st]; exact not_inSession (.inl rfl))
      (disc_abortPending (disc_closeConn (c := c.withTm false false) h.disc))
  case ok =>
    -- a new connection is up and tracked; we have not closed an attempt in flight
    intro i b hl hph
    have hd : Disc (c.setPhase i .connected).conns := h.disc.set i fun e => by
      rcases h.disc.conn i e with x | x <;> rw [hph] at x <;> cases x
    cases b
    · exact .of_disc (not_inSession (.inr (.inl rfl))) hd
    · refine ⟨fun _ => ⟨i, rfl, by rw [← Core.len_setPhase c i .connected] at hl; exact hl, ?_⟩, hd⟩
      show ((c.setPhase i .connected).conn i).1 = .connected
      rw [Core.conn_setPhase, if_pos ⟨rfl, hl⟩]
  case fail =>
    intro i _ hph
    unfold Core.connFail
    split
    · exact coreInv_connectionFailed (c := (c.withPending none).setPhase i .closed) (h.disc.set i fun _ => .inr rfl)
    · exact h.close i fun e => by rw [hph] at e; cases e
  case lost =>
    intro i
    unfold Core.connLost
    split
    · -- we closed `i` ourselves: it is not the tracked connection of a session state
      rename_i hd
      exact coreInv_connectionClosed (h.close i fun e => by rcases h.disc.conn i hd with x | x <;> rw [e] at x <;> cases x) _
    · exact coreInv_connectionFailed (c := c.setPhase i .closed) (h.disc.set i fun _ => .inr rfl)
  case retry =>
    unfold Core.fireRetry
    cases hs : c.st <;> simp only
    · exact h.of_eq rfl rfl fun x => hs ▸ x
    · exact .of_disc (by simp [inSession, Core.setRetry, hs]) (disc_connectTcp (disc_closeConn (c := c.setRetry false) h.disc))
    · exact .of_disc (by simp [inSession, Core.setRetry, hs]) (disc_connectTcp (disc_closeConn (c := c.setRetry false) h.disc))
    all_goals exact coreInv_errorClose (c := c.setRetry false) h.disc
  case idleHold =>
    unfold Core.fireIdleHold
    split
    · exact coreInv_autoStart (h.of_eq (c' := c.setIdleHold false) rfl rfl id) false
    · exact h.of_eq rfl rfl id

theorem coreInv_boot (cfg : Cfg) : CoreInv (core (bootWorld cfg).sess) :=
  .of_disc (not_inSession (.inl rfl)) fun _ hx => nomatch hx

/-! ### `Ch`: what an error close (`headerError`, `openMessageError`) does to the connections, as a relation between the
     session states before and after; it does not enter the invariant above -/

def Aborted (c c' : Conn) : Prop := c.phase = .connecting ∧ c'.phase = .closed ∧ c'.disconnected = c.disconnected

structure Ch (s s' : Sess) : Prop where
  proto : s'.proto = s.proto
  len : s.conns.length ≤ s'.conns.length
  conn : ∀ j, ((s'.conn j).phase = (s.conn j).phase ∧ (s'.conn j).disconnected = (s.conn j).disconnected) ∨
              ((s'.conn j).phase = .closing ∧ (s'.conn j).disconnected = true) ∨
              Aborted (s.conn j) (s'.conn j)

/-- `Ch` reads the skeleton only, and on the skeleton the error close closes the tracked connection or nothing -/
theorem Ch.of_errorClose {s s' : Sess} (e : core s' = (core s).errorClose) : Ch s s' := by
  refine ⟨(congrArg Core.proto e).trans (Core.closeConn_proto _), ?_, fun j => ?_⟩
  · have h : (s'.conns.map pd).length = (s.conns.map pd).length :=
      (congrArg (·.conns.length) e).trans (Core.len_closeConn _)
    rw [List.length_map, List.length_map] at h
    exact Nat.le_of_eq h.symm
  · have h : pd (s'.conn j) = ((core s).withTm false true).closeConn.conn j :=
      (core_conn s' j).symm.trans (congrArg (·.conn j) e)
    rcases Core.conn_closeConn ((core s).withTm false true) j with h' | h'
    · have h := (h.trans h').trans (core_conn s j)
      exact .inl ⟨congrArg Prod.fst h, congrArg Prod.snd h⟩
    · have h := h.trans h'
      exact .inr (.inl ⟨congrArg Prod.fst h, congrArg Prod.snd h⟩)

theorem ch_headerError (s : Sess) (sub : Nat) (d : Bytes) : Ch s (s.headerError sub d) :=
  .of_errorClose (core_headerError s sub d)

theorem ch_openMessageError (s : Sess) (sub : Nat) : Ch s (s.openMessageError sub) :=
  .of_errorClose (core_openMessageError s sub)

end Yabgp.RestInv
